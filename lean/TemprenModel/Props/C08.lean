import TemprenModel.Lemmas.OrderLemmas
/-!
# C08 — Files are processed in the order given by the sort expression

`pySorted` is `List.mergeSort` (core) with the tuple comparator; the theorems below say it
is *the* stable sort: a permutation, ordered, ties in original order — for every list, every
key function and both directions.  Python's Timsort is also a stable sort and a stable sorted
permutation is unique (`sorted_unique`, C08Unique.lean), which is what justifies modelling one by the other.
-/
namespace Tempren
namespace C08
open List
variable {α : Type}

/-- nothing is lost or duplicated by sorting -/
theorem sorted_perm (key : α → List KeyAtom) (inv : Bool) (l : List α) :
    (pySorted key inv l).Perm l := List.mergeSort_perm l _

theorem pySorted_pairwise (key : α → List KeyAtom) (inv : Bool) (l : List α) :
    (pySorted key inv l).Pairwise (fun a b => sortLe key inv a b = true) :=
  List.pairwise_mergeSort (sortLe_trans key inv) (sortLe_total key inv) l

/-- the result is ordered: non-decreasing keys, non-increasing with `--sort-invert` -/
theorem sorted_ordered (key : α → List KeyAtom) (inv : Bool) (l : List α) :
    (pySorted key inv l).Pairwise
      (fun a b => if inv then tupleLeT (key b) (key a) = true else tupleLeT (key a) (key b) = true) := by
  refine (pySorted_pairwise key inv l).imp ?_
  intro a b h
  cases inv <;> exact h

/-- … and, ascending, in terms of Python's own comparison, wherever it is defined (no `TypeError`) -/
theorem sorted_ordered_python (key : α → List KeyAtom) (l : List α) :
    (pySorted key false l).Pairwise (fun a b => ∀ r, tupleLe? (key a) (key b) = some r → r = true) := by
  refine (pySorted_pairwise key false l).imp ?_
  intro a b h r hr
  rw [← tupleLeT_agrees _ _ r hr]; exact h

/-- stability: files with equal keys keep the order in which they were gathered,
    also under `--sort-invert` (Python's `reverse=True` does not reverse ties) -/
theorem sorted_stable [DecidableEq α] (key : α → List KeyAtom) (inv : Bool) (l : List α) (k : List KeyAtom) :
    (pySorted key inv l).filter (fun a => key a = k) = l.filter (fun a => key a = k) := by
  have hsub : l.filter (fun a => key a = k) <+ pySorted key inv l := by
    refine List.sublist_mergeSort (sortLe_trans key inv) (sortLe_total key inv) ?_ List.filter_sublist
    refine List.pairwise_of_forall_mem_list fun a ha b hb => ?_
    simp only [List.mem_filter, decide_eq_true_eq] at ha hb
    exact sortLe_of_key_eq key inv a b (ha.2.trans hb.2.symm)
  have h2 : l.filter (fun a => key a = k) <+ (pySorted key inv l).filter (fun a => key a = k) := by
    simpa [List.filter_filter] using hsub.filter (fun a => decide (key a = k))
  exact (h2.eq_of_length ((sorted_perm key inv l).filter _).length_eq.symm).symm

/-- `PathDepthSorter`: deeper entries first — an entry never precedes one that lies deeper,
    so a directory is always processed after everything beneath it -/
theorem depth_sorter (depth : α → Nat) (l : List α) :
    (depthSorted depth l).Perm l ∧ (depthSorted depth l).Pairwise (fun a b => depth b ≤ depth a) := by
  refine ⟨sorted_perm _ _ _, ?_⟩
  refine (sorted_ordered (fun a => [KeyAtom.int (depth a)]) true l).imp ?_
  intro a b h
  simp only [if_true, tupleLeT] at h
  by_cases e : KeyAtom.int (depth b : Int) = KeyAtom.int (depth a : Int)
  · simp at e; omega
  · simp only [e, if_false, atomLeT, decide_eq_true_eq] at h; omega

/-- in particular a strict ancestor (fewer components) comes after its descendant -/
theorem ancestor_after_descendant (depth : α → Nat) (l : List α) (a b : α)
    (hd : depth a < depth b) : ¬ [a, b] <+ depthSorted depth l := by
  intro h
  have := (depth_sorter depth l).2.sublist h
  simp at this
  omega

/-- Non-vacuity / shape check of the comparator: numbers numerically, strings by code point,
    tuples element-wise, shorter prefix first. -/
example : tupleLeT [.int 9, .str "b".toList] [.int 10, .str "a".toList] = true ∧
    tupleLeT [.str "10".toList] [.str "9".toList] = true ∧
    tupleLeT [.str "Z".toList] [.str "a".toList] = true ∧
    tupleLeT [.str "a".toList] [.str "a".toList, .int 0] = true ∧
    tupleLeT [.int 2] [.int 1] = false := by decide +kernel

end C08
end Tempren

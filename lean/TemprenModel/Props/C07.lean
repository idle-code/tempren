import TemprenModel.Model.Gather
import TemprenModel.Lemmas.FSLemmas
/-!
# C07 — Exactly the designated files are considered, everything else is left alone

The gatherers are characterised exactly (membership ⇔ designation), produce every entry once
per designation, obey the hidden rule; inversion selects precisely the complement; `fnmatch`
basics.  That entries outside the selection keep path and content is C01/C02/C06.
The model of the traversal (`gatherIn`: `glob`/`iterdir` recursion, directory by directory) finds exactly these
selections, each entry once, given enough fuel (`traversal_eq_recFileGather`, `traversal_eq_recDirGather`,
`gatherIn_nodup`); the real pathlib traversal is tied to it by correspondence on generated trees, as multisets.
-/
namespace Tempren
namespace C07

theorem relTo_eq_some {root p : APath} {rel : List Name} : relTo root p = some rel ↔ rel ≠ [] ∧ p = root ++ rel := by
  simp only [relTo, List.isPrefixOf_iff_prefix, Option.ite_none_right_eq_some, Option.some.injEq]
  constructor
  · rintro ⟨⟨⟨t, rfl⟩, hne⟩, rfl⟩
    simpa using hne
  · rintro ⟨h, rfl⟩
    simpa using h

theorem flatPick_eq_some (root : APath) (hidden : Bool) (e : Entry) (x : FileRec) :
    (match relTo root e.path with
      | some [n] => if e.kind ≠ .dir ∧ (hidden ∨ !isHiddenName n) then some (⟨root, ⟨false, [n]⟩⟩ : FileRec) else none
      | _ => none) = some x ↔
      ∃ n, e.path = root ++ [n] ∧ e.kind ≠ .dir ∧ (hidden = true ∨ isHiddenName n = false) ∧ x = ⟨root, ⟨false, [n]⟩⟩ := by
  have : ∀ n, e.path = root ++ [n] ↔ relTo root e.path = some [n] := fun n => by simp [relTo_eq_some]
  simp only [this]
  rcases relTo root e.path with _ | _ | ⟨n, _ | _⟩ <;> simp [and_assoc, eq_comm (a := x)]

/-- **non-recursive**: exactly the non-directory children of the input directory, minus hidden ones -/
theorem mem_flatGather (fs : FS) (root : APath) (hidden : Bool) (x : FileRec) :
    x ∈ flatGather fs root hidden ↔
      ∃ e ∈ fs, ∃ n, e.path = root ++ [n] ∧ e.kind ≠ .dir ∧ (hidden = true ∨ isHiddenName n = false) ∧
        x = ⟨root, ⟨false, [n]⟩⟩ :=
  List.mem_filterMap.trans (exists_congr fun e => and_congr_right fun _ => flatPick_eq_some root hidden e x)

/-- what a recursive selection makes of one entry; the two recursive gatherers differ in the kind `K` they keep -/
theorem recPick_eq_some (K : Kind → Prop) [DecidablePred K] (root : APath) (hidden : Bool) (e : Entry) (x : FileRec) :
    (match relTo root e.path with
      | some rel => if K e.kind ∧ (hidden ∨ rel.all (fun n => !isHiddenName n)) then some (⟨root, ⟨false, rel⟩⟩ : FileRec) else none
      | none => none) = some x ↔
      ∃ rel, rel ≠ [] ∧ e.path = root ++ rel ∧ K e.kind ∧
        (hidden = true ∨ ∀ n ∈ rel, isHiddenName n = false) ∧ x = ⟨root, ⟨false, rel⟩⟩ := by
  simp only [← and_assoc, ← relTo_eq_some]
  cases relTo root e.path with
  | none => simp
  | some r => simp [and_assoc, eq_comm (a := x)]

/-- **recursive**: exactly the non-directory descendants with no hidden component below the root -/
theorem mem_recFileGather (fs : FS) (root : APath) (hidden : Bool) (x : FileRec) :
    x ∈ recFileGather fs root hidden ↔
      ∃ e ∈ fs, ∃ rel, rel ≠ [] ∧ e.path = root ++ rel ∧ e.kind ≠ .dir ∧
        (hidden = true ∨ ∀ n ∈ rel, isHiddenName n = false) ∧ x = ⟨root, ⟨false, rel⟩⟩ :=
  List.mem_filterMap.trans (exists_congr fun e => and_congr_right fun _ => recPick_eq_some (· ≠ .dir) root hidden e x)

/-- **directory mode, recursive**: exactly the directory descendants, same hidden rule -/
theorem mem_recDirGather (fs : FS) (root : APath) (hidden : Bool) (x : FileRec) :
    x ∈ recDirGather fs root hidden ↔
      ∃ e ∈ fs, ∃ rel, rel ≠ [] ∧ e.path = root ++ rel ∧ e.kind = .dir ∧
        (hidden = true ∨ ∀ n ∈ rel, isHiddenName n = false) ∧ x = ⟨root, ⟨false, rel⟩⟩ :=
  List.mem_filterMap.trans (exists_congr fun e => and_congr_right fun _ => recPick_eq_some (· = .dir) root hidden e x)

/-- explicitly named files: input directory = their parent, relative path = their name,
    whatever the name looks like (the hidden rule does not apply to them) -/
theorem explicit_input_dir (p : APath) (n : Name) :
    explicitGather [p ++ [n]] = [⟨p, ⟨false, [n]⟩⟩] := by
  simp [explicitGather]

theorem nodup_filterMap_of_path {fs : FS} (hn : pathsNodup fs) (g : Entry → Option FileRec)
    (hg : ∀ e x, g e = some x → e.path = x.inputDir ++ x.rel.parts) : (fs.filterMap g).Nodup :=
  (List.pairwise_map.mp hn).filterMap g fun e e' hne x hx x' hx' hxx =>
    hne (by rw [hg e x hx, hxx, ← hg e' x' hx'])

/-- each entry is considered once per designation: a gatherer never yields an entry twice -/
theorem once_per_designation (fs : FS) (hn : pathsNodup fs) (root : APath) (hidden : Bool) :
    (recFileGather fs root hidden).Nodup ∧ (flatGather fs root hidden).Nodup ∧ (recDirGather fs root hidden).Nodup := by
  have hrec : ∀ (K : Kind → Prop) [DecidablePred K] (e : Entry) (x : FileRec), _ = some x → e.path = x.inputDir ++ x.rel.parts :=
    fun K _ e x h => by
      obtain ⟨rel, _, hp, _, _, rfl⟩ := (recPick_eq_some K root hidden e x).mp h
      exact hp
  refine ⟨nodup_filterMap_of_path hn _ (hrec (· ≠ .dir)), nodup_filterMap_of_path hn _ fun e x h => ?_,
    nodup_filterMap_of_path hn _ (hrec (· = .dir))⟩
  obtain ⟨n, hp, _, _, rfl⟩ := (flatPick_eq_some root hidden e x).mp h
  exact hp

/-- `--filter-invert` selects precisely the complement within the gathered set, for every total filter -/
theorem invert_complement (gathered : List FileRec) (f : FileRec → Bool) :
    (∀ x, x ∈ selectFiles gathered f true ↔ x ∈ gathered ∧ x ∉ selectFiles gathered f false) ∧
    (selectFiles gathered f false).length + (selectFiles gathered f true).length = gathered.length ∧
    (selectFiles gathered f false ++ selectFiles gathered f true).Perm gathered := by
  have hp : (selectFiles gathered f false ++ selectFiles gathered f true).Perm gathered := List.filter_append_perm _ _
  refine ⟨fun x => ?_, List.length_append ▸ hp.length_eq, hp⟩
  simp only [selectFiles, List.mem_filter, if_true, Bool.false_eq_true, if_false, Bool.not_eq_true']
  constructor
  · rintro ⟨h1, h2⟩; exact ⟨h1, fun h => by rw [h.2] at h2; cases h2⟩
  · rintro ⟨h1, h2⟩; exact ⟨h1, Bool.eq_false_iff.mpr fun hf => h2 ⟨h1, hf⟩⟩

/-- glob and regex filters look at the name in name and directory mode and at the relative path in path mode -/
theorem filter_field (x : FileRec) :
    filterField .name x = nameOf x.rel ∧ filterField .directory x = nameOf x.rel ∧ filterField .path x = strPath x.rel :=
  ⟨rfl, rfl, rfl⟩

/-- `*` matches every name -/
theorem glob_star (s : List Char) : globMatch ['*'] s = true := by
  unfold globMatch
  simp only [List.length_cons, List.length_nil, globTokens]
  induction s with
  | nil => rw [globMatchToks]; simp [globMatchToks]
  | cons c t ih => rw [globMatchToks]; simp [ih]

/-- Non-vacuity of the gatherer characterisation: a hidden file inside a visible directory. -/
example : recFileGather [⟨[['r']], 1, .dir, 0⟩, ⟨[['r'], ['d']], 2, .dir, 0⟩, ⟨[['r'], ['d'], ['.', 'h']], 3, .file, 1⟩,
      ⟨[['r'], ['d'], ['f']], 4, .file, 2⟩] [['r']] false = [⟨[['r']], ⟨false, [['d'], ['f']]⟩⟩] := by decide

/-! ### the traversal computes the selection -/

theorem mem_iterdir {fs : FS} {root : APath} {c : Entry} :
    c ∈ iterdir fs root ↔ c ∈ fs ∧ ∃ n, c.path = root ++ [n] := by
  simp only [iterdir, List.mem_filter, ne_eq, decide_eq_true_eq, and_congr_right_iff]
  refine fun _ => ⟨fun ⟨h0, hd⟩ => ⟨c.path.getLast h0, ?_⟩, fun ⟨n, h⟩ => by simp [h]⟩
  rw [← hd, List.dropLast_concat_getLast]

/-- what one listed child contributes: itself if it is visible and of the wanted kind, and what lies below it if it
    is a visible directory -/
def visit (fs : FS) (hidden dirs : Bool) (fuel : Nat) (c : Entry) : List APath :=
  match c.path.getLast? with
  | none => []
  | some n =>
    if !hidden && isHiddenName n then []
    else if c.kind = .dir then (if dirs then [c.path] else []) ++ gatherIn fs hidden dirs fuel c.path
    else (if dirs then [] else [c.path])

theorem gatherIn_succ (fs : FS) (hidden dirs : Bool) (fuel : Nat) (d : APath) :
    gatherIn fs hidden dirs (fuel + 1) d = (iterdir fs d).flatMap (visit fs hidden dirs fuel) := rfl

theorem mem_visit {fs : FS} {hidden dirs : Bool} {fuel : Nat} {c : Entry} {root : APath} {n : Name}
    (hn : c.path = root ++ [n]) (p : APath) :
    p ∈ visit fs hidden dirs fuel c ↔ (hidden = true ∨ isHiddenName n = false) ∧
      (((c.kind = .dir ↔ dirs = true) ∧ p = c.path) ∨ (c.kind = .dir ∧ p ∈ gatherIn fs hidden dirs fuel c.path)) := by
  have hv : (!hidden && isHiddenName n) = true ↔ ¬ (hidden = true ∨ isHiddenName n = false) := by
    cases hidden <;> simp
  simp only [visit, hn, List.getLast?_concat, hv]
  by_cases hvis : hidden = true ∨ isHiddenName n = false
  · by_cases hk : c.kind = .dir <;> by_cases hd : dirs = true <;> simp [hk, hd, hvis, eq_comm (a := p)]
  · simp [hvis]

theorem visit_sublist (fs : FS) (hidden dirs : Bool) (fuel : Nat) (c : Entry) :
    (visit fs hidden dirs fuel c).Sublist (c.path :: gatherIn fs hidden dirs fuel c.path) := by
  fun_cases visit fs hidden dirs fuel c
  case case3 => cases dirs <;> simp
  all_goals simp

/-- one level of `_gather_in`: a visible child of the listed directory is yielded if it is of the wanted kind, and
    entered if it is a directory -/
theorem mem_gatherIn_succ (fs : FS) (hidden dirs : Bool) (fuel : Nat) (root p : APath) :
    p ∈ gatherIn fs hidden dirs (fuel + 1) root ↔
      ∃ c ∈ fs, ∃ n, c.path = root ++ [n] ∧ (hidden = true ∨ isHiddenName n = false) ∧
        (((c.kind = .dir ↔ dirs = true) ∧ p = c.path) ∨ (c.kind = .dir ∧ p ∈ gatherIn fs hidden dirs fuel c.path)) := by
  rw [gatherIn_succ, List.mem_flatMap]
  refine exists_congr fun c => ?_
  rw [mem_iterdir, and_assoc]
  exact and_congr_right fun _ => ⟨fun ⟨⟨n, hn⟩, h⟩ => ⟨n, hn, (mem_visit hn p).mp h⟩,
    fun ⟨n, hn, h⟩ => ⟨⟨n, hn⟩, (mem_visit hn p).mpr h⟩⟩

/-- **traversal = specification**: on a well-formed tree, listing directories recursively the way
    `_gather_in` does — skipping hidden names, descending into directories — yields exactly the entries of the
    wanted kind that lie below the start directory within the depth bound and have no hidden component on
    the way (unless hidden entries are included) -/
theorem gatherIn_spec (fs : FS) (hw : WF fs) (hidden dirs : Bool) :
    ∀ (fuel : Nat) (root : APath) (p : APath),
      p ∈ gatherIn fs hidden dirs fuel root ↔
        ∃ e ∈ fs, e.path = p ∧ (e.kind = .dir ↔ dirs = true) ∧
          ∃ rel, rel ≠ [] ∧ p = root ++ rel ∧ rel.length ≤ fuel ∧ (hidden = true ∨ ∀ n ∈ rel, isHiddenName n = false) := by
  intro fuel
  induction fuel with
  | zero =>
    exact fun root p => ⟨fun h => (nomatch h), fun ⟨_, _, _, _, rel, hne, _, hl, _⟩ =>
      absurd (List.length_eq_zero_iff.mp (Nat.le_zero.mp hl)) hne⟩
  | succ fuel ih =>
    intro root p
    -- the hidden rule for a relative path, component by component
    have hcons : ∀ n rel, (hidden = true ∨ ∀ m ∈ n :: rel, isHiddenName m = false) ↔
        (hidden = true ∨ isHiddenName n = false) ∧ (hidden = true ∨ ∀ m ∈ rel, isHiddenName m = false) := fun n rel => by
      rw [List.forall_mem_cons, or_and_left]
    rw [mem_gatherIn_succ]
    constructor
    · rintro ⟨c, hcfs, n, hcp, hvis, ⟨hkd, rfl⟩ | ⟨_, hp⟩⟩
      · exact ⟨c, hcfs, rfl, hkd, [n], by simp, hcp, by simp, (hcons n []).mpr ⟨hvis, by simp⟩⟩
      · obtain ⟨e, he, hep, hek, rel, hrne, hprel, hlen, hh⟩ := (ih c.path p).mp hp
        exact ⟨e, he, hep, hek, n :: rel, by simp, by rw [hprel, hcp]; simp, by simp; omega, (hcons n rel).mpr ⟨hvis, hh⟩⟩
    · rintro ⟨e, he, rfl, hek, _ | ⟨n, rel⟩, hrne, hprel, hlen, hh⟩
      · exact absurd rfl hrne
      obtain ⟨hvis, hh⟩ := (hcons n rel).mp hh
      by_cases hr : rel = []
      · -- the entry is a child of the start directory
        subst hr
        exact ⟨e, he, n, hprel, hvis, .inl ⟨hek, rfl⟩⟩
      · -- the entry lies deeper: the child on the way is a directory entry
        obtain ⟨d, hdm, hdp, hdk⟩ := ancestor_is_dir hw.2 he (q := root ++ [n]) ⟨rel, by rw [hprel]; simp⟩
          (fun h => hr (by simpa [hprel] using h.symm)) (by simp)
        exact ⟨d, hdm, n, hdp, hvis, .inr ⟨hdk, (ih d.path e.path).mpr
          ⟨e, he, rfl, hek, rel, hr, by rw [hprel, hdp]; simp, by simp at hlen; omega, hh⟩⟩⟩

/-- the selection of entries whose kind is of the wanted sort is what the traversal finds (any sufficient depth bound) -/
theorem traversal_iff (fs : FS) (hw : WF fs) (root : APath) (hidden dirs : Bool) (fuel : Nat)
    (hfuel : ∀ e ∈ fs, e.path.length ≤ root.length + fuel) (K : Kind → Prop) (hK : ∀ k, K k ↔ (k = .dir ↔ dirs = true))
    (x : FileRec) :
    (∃ e ∈ fs, ∃ rel, rel ≠ [] ∧ e.path = root ++ rel ∧ K e.kind ∧
        (hidden = true ∨ ∀ n ∈ rel, isHiddenName n = false) ∧ x = ⟨root, ⟨false, rel⟩⟩) ↔
      ∃ p ∈ gatherIn fs hidden dirs fuel root, x = ⟨root, ⟨false, p.drop root.length⟩⟩ := by
  simp only [gatherIn_spec fs hw]
  constructor
  · rintro ⟨e, he, rel, hrne, hp, hk, hh, rfl⟩
    have := hfuel e he
    rw [hp, List.length_append] at this
    exact ⟨_, ⟨e, he, rfl, (hK _).mp hk, rel, hrne, hp, by omega, hh⟩, by rw [hp]; simp⟩
  · rintro ⟨p, ⟨e, he, rfl, hek, rel, hrne, hprel, _, hh⟩, rfl⟩
    exact ⟨e, he, rel, hrne, hprel, (hK _).mpr hek, hh, by rw [hprel]; simp⟩

/-- hence the recursive file gatherer's selection is what the traversal finds (any sufficient depth bound) -/
theorem traversal_eq_recFileGather (fs : FS) (hw : WF fs) (root : APath) (hidden : Bool) (fuel : Nat)
    (hfuel : ∀ e ∈ fs, e.path.length ≤ root.length + fuel) (x : FileRec) :
    x ∈ recFileGather fs root hidden ↔
      ∃ p ∈ gatherIn fs hidden false fuel root, x = ⟨root, ⟨false, p.drop root.length⟩⟩ := by
  rw [mem_recFileGather]
  exact traversal_iff fs hw root hidden false fuel hfuel (· ≠ .dir) (fun k => by simp) x

/-- … and likewise for the directory gatherer of directory mode -/
theorem traversal_eq_recDirGather (fs : FS) (hw : WF fs) (root : APath) (hidden : Bool) (fuel : Nat)
    (hfuel : ∀ e ∈ fs, e.path.length ≤ root.length + fuel) (x : FileRec) :
    x ∈ recDirGather fs root hidden ↔
      ∃ p ∈ gatherIn fs hidden true fuel root, x = ⟨root, ⟨false, p.drop root.length⟩⟩ := by
  rw [mem_recDirGather]
  exact traversal_iff fs hw root hidden true fuel hfuel (· = .dir) (fun k => by simp) x

theorem gatherIn_child_prefix (fs : FS) (hw : WF fs) (hidden dirs : Bool) (fuel : Nat) (c : APath) (p : APath)
    (h : p ∈ gatherIn fs hidden dirs fuel c) : c <+: p ∧ p ≠ c := by
  obtain ⟨e, _, _, _, rel, hrne, hprel, _, _⟩ := (gatherIn_spec fs hw hidden dirs fuel c p).mp h
  exact ⟨⟨rel, hprel.symm⟩, fun heq => hrne (List.append_right_eq_self.mp (hprel.symm.trans heq))⟩

/-- **the traversal yields every entry once** -/
theorem gatherIn_nodup (fs : FS) (hw : WF fs) (hidden dirs : Bool) :
    ∀ (fuel : Nat) (root : APath), (gatherIn fs hidden dirs fuel root).Nodup := by
  intro fuel
  induction fuel with
  | zero => exact fun _ => List.nodup_nil
  | succ fuel ih =>
    intro root
    -- what a child contributes lies at or below it
    have below : ∀ c, ∀ p ∈ visit fs hidden dirs fuel c, c.path <+: p := fun c p hp =>
      (List.mem_cons.mp ((visit_sublist fs hidden dirs fuel c).subset hp)).elim (fun e => e ▸ List.prefix_rfl)
        fun h => (gatherIn_child_prefix fs hw hidden dirs fuel c.path p h).1
    rw [gatherIn_succ, List.nodup_iff_pairwise_ne, List.pairwise_flatMap]
    constructor
    · exact fun c _ => (List.nodup_cons.mpr ⟨fun h => (gatherIn_child_prefix fs hw hidden dirs fuel c.path _ h).2 rfl,
        ih c.path⟩).sublist (visit_sublist fs hidden dirs fuel c)
    · -- two children of one directory have different paths of the same length: neither's contribution reaches the other's
      refine ((List.pairwise_map.mp hw.1).filter _).imp_of_mem fun {a b} ha hb hne x hx y hy hxy => hne ?_
      subst hxy
      obtain ⟨na, hna⟩ := (mem_iterdir.mp ha).2
      obtain ⟨nb, hnb⟩ := (mem_iterdir.mp hb).2
      obtain ⟨ta, hta⟩ := below a x hx
      obtain ⟨tb, htb⟩ := below b x hy
      exact List.append_inj_left (hta.trans htb.symm) (by rw [hna, hnb]; simp)

end C07
end Tempren

import TemprenModel.Lemmas.FSLemmas
import TemprenModel.Lemmas.PipelineLemmas
/-!
# C01 — Nothing is lost or overwritten unless the user chose override

`leaves fs` lists identity, kind and content of every non-directory entry.  The theorems say
that list is *the same list* after every single primitive file-system operation of a run —
for every tree, file list, plan, processing order, mode, answer sequence and fault schedule —
as long as override was not chosen.  Equality of the list (not just of its set) is "exactly
once" and "no content replaced by another's".
-/
namespace Tempren
namespace C01

/-- one guarded primitive (a `mkdir`, or a `rename` onto a path that does not exist) keeps
    every leaf and keeps the file system a tree -/
theorem prim_preserves (L : List (Nat × Kind × Nat)) (s s' : RealState) (p : Prim)
    (hs : Safe L s) (h : s.prim p = .ok s') (hg : GuardedPrim s.fs p) : Safe L s' := prim_safe hs h hg

/-- a renamer call without override is safe in name/directory mode … -/
theorem fileRenamer_safe (L : List (Nat × Kind × Nat)) (s : RealState) (hs : Safe L s) (cwd : APath)
    (src dst : PurePath) : Safe L (fileRenamer s cwd src dst false).1 := Tempren.fileRenamer_safe hs cwd src dst

/-- … and in path mode (every `mkdir` of `mkdir -p` and the final move, one by one) -/
theorem fileMover_safe (L : List (Nat × Kind × Nat)) (s : RealState) (hs : Safe L s) (cwd : APath)
    (src dst : PurePath) : Safe L (fileMover s cwd src dst false).1 := Tempren.fileMover_safe hs cwd src dst

/-- override reaches a renamer only from the override branch: under stop, ignore, and manual
    answers other than override, *every* renamer call of the run carries `override = False` -/
theorem override_only_from_override_branch {σ : Type} (R : Renamer σ) (st : σ) (files : List FileRec)
    (gen : Nat → Gen) (strategy : Strategy) (answers : List Answer) (hs : NoOverride strategy answers) :
    ∀ c ∈ (execute R st files gen strategy answers).1.calls, c.2.2.2 = false := by
  refine execute_induct_noOverride R (fun r => ∀ c ∈ r.calls, c.2.2.2 = false) st files gen strategy answers hs ?_
    (by simp)
  intro r dir src dst h _ c hc
  rw [Run.call_calls, List.mem_append, List.mem_singleton] at hc
  rcases hc with hc | rfl
  · exact h c hc
  · rfl

/-- **C01.** A run in name, directory or path mode, started on any tree, for any file list, plan
    (`gen`), order, answer sequence and with a fault injected at any primitive (`faultAt`), under
    stop / ignore / manual-without-override: after *every* primitive operation, and at the end
    (success, conflict stop or any error), the leaves are exactly the initial ones. -/
theorem no_loss (pathMode : Bool) (fs : FS) (hw : WF fs) (faultAt : Option Nat) (files : List FileRec)
    (gen : Nat → Gen) (strategy : Strategy) (answers : List Answer) (hs : NoOverride strategy answers) :
    let R := if pathMode then realPathRenamer else realNameRenamer
    let run := (execute R { fs := fs, faultAt := faultAt } files gen strategy answers).1
    leaves run.st.fs = leaves fs ∧ (∀ f ∈ run.st.hist, leaves f = leaves fs) ∧ WF run.st.fs := by
  intro R run
  have h : Safe (leaves fs) run.st := by
    refine execute_induct_noOverride R (fun r => Safe (leaves fs) r.st) _ files gen strategy answers hs ?_
      ⟨hw, rfl, by simp⟩
    intro r dir src dst h _
    rw [Run.call_st]
    cases pathMode
    · exact Tempren.fileRenamer_safe h dir src dst
    · exact Tempren.fileMover_safe h dir src dst
  exact ⟨h.2.1, h.2.2, h.1⟩

/-- the history really is "after every primitive": it grows by one state per completed primitive -/
theorem hist_tracks_log (s s' : RealState) (p : Prim) (h : s.prim p = .ok s') :
    s'.log = s.log ++ [p] ∧ s'.hist = s.hist ++ [s'.fs] := by
  obtain ⟨_, fs', _, rfl⟩ := prim_ok_iff.mp h
  exact ⟨rfl, rfl⟩

/-- without the guard the property is false: replacing an existing file loses it (witness) -/
theorem override_can_lose :
    let fs : FS := [⟨[['a']], 1, .file, 10⟩, ⟨[['b']], 2, .file, 20⟩]
    ∃ fs', renameAbs fs [['a']] [['b']] = .ok fs' ∧ leaves fs' ≠ leaves fs := by
  refine ⟨[⟨[['b']], 1, .file, 10⟩], by rfl, by decide⟩

/-- Non-vacuity: a well-formed tree with a nested file, a dangling symlink and a directory. -/
example : WF ([⟨[['d']], 1, .dir, 0⟩, ⟨[['d'], ['f']], 2, .file, 7⟩, ⟨[['l']], 3, .link ['x'], 0⟩] : FS) := by
  constructor
  · unfold pathsNodup; decide
  · intro e he
    simp only [List.mem_cons, List.not_mem_nil, or_false] at he
    rcases he with rfl | rfl | rfl
    · exact ⟨by decide, Or.inl rfl⟩
    · exact ⟨by decide, Or.inr ⟨⟨[['d']], 1, .dir, 0⟩, by simp, rfl, rfl⟩⟩
    · exact ⟨by decide, Or.inl rfl⟩

end C01
end Tempren

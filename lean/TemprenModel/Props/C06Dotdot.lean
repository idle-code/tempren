import TemprenModel.Props.C06
/-!
# C06 — `..` after a component that does not exist (yet)

`Path.resolve()` (non-strict) normalises the part of a path that does not exist lexically, so the containment verdict
cannot depend on whether a directory named in the generated path has been created already.  `dotdot_after_missing_refused`:
on a link-free tree, for every input directory `dir` (plain components, not the root) and every name `m` — whether or not
`dir/m` exists — the generated path `m/../../x` is judged **outside** `dir` unless `x` is the input directory's own name.
(A check that resolves only the existing prefix and appends the rest unchanged accepts it while `m` is missing; `FileMover`
then creates `m` and the file leaves the input directory.)
-/
namespace Tempren
namespace C06

theorem dotdot_after_missing_refused (fs : FS) (h : NoLinks fs) (dir : APath) (hdir : ∀ c ∈ dir, c ≠ dotdot)
    (hne : dir ≠ []) (m x : Name) (hm : m ≠ dotdot) (hx : x ≠ dotdot) (hlast : dir.getLast? ≠ some x) :
    contained fs dir ⟨false, [m, dotdot, dotdot, x]⟩ = .ok false := by
  rw [C05.linkFree_resolve h]
  simp only [absKey, Bool.false_eq_true, if_false]
  have h1 : upOne (dir ++ [m]) = dir := by
    rw [upOne_plain (by simp) (List.forall_mem_append.mpr ⟨hdir, List.forall_mem_singleton.mpr hm⟩)]
    simp
  have h2 : upOne dir = dir.dropLast := upOne_plain hne hdir
  have hnorm : lexNorm dir [m, dotdot, dotdot, x] = dir.dropLast ++ [x] := by
    simp only [lexNorm, hm, hx, if_false, if_true, h1, h2]
  rw [hnorm]
  congr 1
  rw [Bool.eq_false_iff]
  intro hp
  have ht := (List.isPrefixOf_iff_prefix.mp hp).eq_of_length_le (Nat.le_of_eq (length_dropLast_snoc dir x hne))
  apply hlast
  rw [ht]
  simp

/-- non-vacuity: the hypotheses hold for the input directory `w/in`, the missing component `staging` and `x = b`
    (and fail, as they must, for `x = in`: `staging/../../in` is the input directory itself) -/
example :
    let dir : APath := ["w".toList, "in".toList]
    (∀ c ∈ dir, c ≠ dotdot) ∧ dir ≠ [] ∧ "staging".toList ≠ dotdot ∧ "b".toList ≠ dotdot ∧
    dir.getLast? ≠ some "b".toList ∧ dir.getLast? = some "in".toList := by
  decide +kernel

end C06
end Tempren

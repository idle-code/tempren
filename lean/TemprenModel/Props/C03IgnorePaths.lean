import TemprenModel.Props.C02Paths
/-!
# C03 (ignore) — the tree an `ignore` run leaves behind, in closed form

Under `--conflict-ignore` nothing is ever overridden and every file is renamed at most once, so the report of an `ignore`
run is a valid report without override whose sources are pairwise different: `ignore_run_paths` — for pairwise different
existing entries and any plan of name-mode shape (free, colliding, chained, cyclic), after the run a path exists iff a
*reported* rename went there, or it existed initially and no reported rename left from it.  Every file that was not renamed
is therefore exactly where it was, and nothing was replaced.

`ignore_report` (any renamer): by `C02.firstPass_complete` and `C02.secondPass_accounts` the whole report is, up to order, a
sub-list of the planned moves, and by `execute_events_noOverride` none of it with override.  `secondPass_ignore_accounts`
states the second-pass half on its own.
-/
namespace Tempren
namespace C03
open C05 C02
variable {σ : Type}

theorem secondPass_ignore_accounts (R : Renamer σ) :
    ∀ (bl : List Move) (r r' : Run σ) (as : List Answer) (o : Option Outcome),
      secondPass R .ignore bl r as = (r', o) →
      ∃ sub, List.Sublist sub bl ∧ r'.events.map moveOf = r.events.map moveOf ++ sub ∧
        (∀ e ∈ r'.events, e ∉ r.events → e.override = false) := by
  intro bl r r' as o h
  obtain ⟨sub, h1, h2, _⟩ := secondPass_accounts R (.inr rfl) bl r r' as o h
  refine ⟨sub, h1, h2, ?_⟩
  have := secondPass_induct R (fun r' => ∀ e ∈ r'.events, e ∉ r.events → e.override = false) .ignore bl r as
    (fun _ _ _ _ ov h _ hov e he hn => (Run.call_events_mem he).elim (h e · hn) fun h => by
      cases ov with
      | false => exact h
      | true => exact absurd (.inr (.inl rfl)) (hov rfl))
    fun e he hn => absurd he hn
  rwa [h] at this

/-- the report of a successful `ignore` run: no override, and — up to order — a sub-list of the planned moves -/
theorem ignore_report (R : Renamer σ) (st : σ) (files : List FileRec) (gen : Nat → Gen) (as : List Answer)
    (hdone : (execute R st files gen .ignore as).2 = .done) :
    (∀ e ∈ (execute R st files gen .ignore as).1.events, e.override = false) ∧
    ∃ l, List.Perm l (planned gen 0 files) ∧ List.Sublist ((execute R st files gen .ignore as).1.events.map moveOf) l := by
  obtain ⟨r₁, bl, h₁, h₂⟩ := execute_done hdone
  obtain ⟨_, hperm, _⟩ := firstPass_complete R gen files 0 _ _ _ _ h₁
  obtain ⟨sub, hs, hev, _⟩ := secondPass_accounts R (.inr rfl) _ _ _ _ _ h₂
  refine ⟨execute_events_noOverride R st files gen (.inr (.inl rfl)),
    r₁.events.map moveOf ++ bl.reverse, ?_, hev ▸ (List.Sublist.refl _).append hs⟩
  exact ((List.reverse_perm bl).append_left _).trans (by simpa using hperm)

/-- **C03, ignore: the final tree in closed form**: after a successful `ignore` run (no scripted answers) of a name-mode
    plan over pairwise different existing entries a path exists iff a *reported* rename went there, or it existed
    initially and no reported rename left from it -/
theorem ignore_run_paths (base : FS) (hw : WF base) (hl : LinkFree base)
    (files : List FileRec) (gen : Nat → Gen)
    (hplan : ∀ k f, files[k]? = some f → ∀ p, gen k = .path p → p ≠ f.rel → NameCall base f.inputDir f.rel p)
    (hsrcs : ∀ f ∈ files, lexists base (fileKey f) = true) (hnd : (files.map fileKey).Nodup)
    (hdone : (execute realNameRenamer { fs := base } files gen .ignore []).2 = .done) :
    let evs := (execute realNameRenamer { fs := base } files gen .ignore []).1.events
    ∀ x, lexists (execute realNameRenamer { fs := base } files gen .ignore []).1.st.fs x = true ↔
      ((∃ e ∈ evs, dstKey e = x) ∨ (lexists base x = true ∧ ¬ ∃ e ∈ evs, srcKey e = x)) := by
  intro evs
  obtain ⟨hov, l, hperm, hsub⟩ := ignore_report realNameRenamer { fs := base } files gen [] hdone
  obtain ⟨hndE, hsrcE⟩ := report_srcs hsrcs hnd hperm hsub
  exact final_tree_closed_form base hw hl files gen .ignore [] hplan (fun _ _ q hq => nomatch hq) hov hndE hsrcE

end C03
end Tempren

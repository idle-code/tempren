import TemprenModel.Props.C05
/-!
# C05 — "… so the final tree equals the dry run's report applied to the initial tree"

The simplest possible specification of what a list of reported renames *means*: a map from paths to "exists", in
which a reported rename `src → dst` makes `dst` exist and `src` not (`applyReport`).  `specRenamer` is the renamer
whose whole state is that map.  Two refinement steps:

* `C05.name_mode_simulation`: the dry-run renamer (sets `removed` / `created` over the untouched tree) simulates the
  real in-place renamer (abstract POSIX tree) on every name-mode call;
* `dry_refines_spec`: the specification renamer simulates the dry-run renamer.

Composed through `runs_agree_on` (twice), with the invariant `spec_state_is_report` of the specification renamer:
`final_tree_is_report_applied` — for every link-free tree, file list, plan (free, colliding, chained, cyclic), order,
strategy and scripted answers (override and custom paths included) of name-mode shape, a path exists in the tree the
REAL run leaves behind iff it exists after applying, in order, the renames the DRY run reported to the initial tree.
-/
namespace Tempren
namespace C05

/- `applyMove`, `applyReport`: Model/Report.lean (the driver runs them against real reports) -/

structure SpecState where
  base : FS
  occ : APath → Bool

/-- the specification renamer: refuse an occupied destination unless overriding, refuse another directory, refuse a
    missing source, otherwise move -/
def specCall (s : SpecState) (cwd : APath) (src dst : PurePath) (ov : Bool) : SpecState × Option RenErr :=
  if (s.occ (absKey cwd dst) && !ov) = true then (s, some .destExists)
  else if parentOf src ≠ parentOf dst then (s, some .invalidDest)
  else if s.occ (absKey cwd src) = false then (s, some .notFound)
  else ({ s with occ := applyMove s.occ (absKey cwd src) (absKey cwd dst) }, none)

def specRenamer : Renamer SpecState := { call := specCall, view := (·.base) }

/-- the state relation between the dry-run renamer and the specification -/
def SpecSim (base : FS) (d : DryState) (s : SpecState) : Prop :=
  d.base = base ∧ s.base = base ∧ ∀ x, vexists d x = s.occ x

/-- the specification renamer on a name-mode call: the dry-run renamer's closed form, over `occ` -/
theorem Resolved.specCall_eq {base : FS} {dir : APath} {src dst : PurePath} (hR : Resolved base dir src dst)
    (s : SpecState) (ov : Bool) :
    specCall s dir src dst ov =
      if (s.occ (absKey dir dst) && !ov) = true then (s, some .destExists)
      else if s.occ (absKey dir src) = false then (s, some .notFound)
      else ({ s with occ := applyMove s.occ (absKey dir src) (absKey dir dst) }, none) := by
  simp only [specCall, hR.parent, ne_eq, not_true_eq_false, if_false]

/-- **the dry-run renamer refines the specification** on every name-mode call -/
theorem dry_refines_spec (base : FS) :
    SimulationOn dryRenamer specRenamer (SpecSim base) (NameCall base) where
  view := by
    intro s₁ s₂ dir p ⟨h1, h2, _⟩
    show contained s₁.base dir p = contained s₂.base dir p
    rw [h1, h2]
  call := by
    intro d s dir src dst ov ⟨hb1, hb2, hocc⟩ hG
    have hR := hG.resolved
    show SpecSim base (dryRunRenamerWith true d dir src dst ov).1 (specCall s dir src dst ov).1 ∧
      ErrSim (dryRunRenamerWith true d dir src dst ov).2 (specCall s dir src dst ov).2
    rw [hR.dryRunRenamer_eq, hR.specCall_eq, hocc, hocc]
    split
    · exact ⟨⟨hb1, hb2, hocc⟩, .refl _⟩
    · split
      · exact ⟨⟨hb1, hb2, hocc⟩, .refl _⟩
      · exact ⟨⟨hb1, hb2, fun x => by rw [vexists_move d hR.ne]; simp only [applyMove, hocc]⟩, trivial⟩

/-- a call that is refused changes nothing, and met a taken destination, another directory or a missing source; a call
    that succeeds found its source and — unless overriding — no destination, and moved -/
theorem specCall_spec (s : SpecState) (cwd : APath) (src dst : PurePath) (ov : Bool) :
    ((∃ e, specCall s cwd src dst ov = (s, some e)) ∧
      ((s.occ (absKey cwd dst) = true ∧ ov = false) ∨ parentOf src ≠ parentOf dst ∨ s.occ (absKey cwd src) = false)) ∨
    (specCall s cwd src dst ov = ({ s with occ := applyMove s.occ (absKey cwd src) (absKey cwd dst) }, none) ∧
      s.occ (absKey cwd src) = true ∧ (ov = false → s.occ (absKey cwd dst) = false)) := by
  fun_cases specCall s cwd src dst ov
  · rename_i h1
    exact .inl ⟨⟨_, rfl⟩, .inl (by simpa using h1)⟩
  · exact .inl ⟨⟨_, rfl⟩, .inr (.inl ‹_›)⟩
  · exact .inl ⟨⟨_, rfl⟩, .inr (.inr ‹_›)⟩
  · rename_i h1 _ h3
    exact .inr ⟨rfl, by simpa using h3, fun hov => by simpa [hov] using h1⟩

theorem specCall_cases (s : SpecState) (cwd : APath) (src dst : PurePath) (ov : Bool) :
    (∃ e, specCall s cwd src dst ov = (s, some e)) ∨
    specCall s cwd src dst ov = ({ s with occ := applyMove s.occ (absKey cwd src) (absKey cwd dst) }, none) :=
  (specCall_spec s cwd src dst ov).imp (·.1) (·.1)

theorem applyReport_snoc (base : FS) (evs : List Event) (e : Event) :
    applyReport base (evs ++ [e]) = applyMove (applyReport base evs) (absKey e.dir e.src) (absKey e.dir e.dst) := by
  simp [applyReport, List.foldl_append]

def srcKey (e : Event) : APath := absKey e.dir e.src
def dstKey (e : Event) : APath := absKey e.dir e.dst

/-- every reported rename was possible when it was made: its source existed, and — unless overriding — its destination
    did not, in the tree obtained by applying the renames reported before it -/
def ValidReport (base : FS) (evs : List Event) : Prop :=
  ∀ pre e post, evs = pre ++ e :: post →
    applyReport base pre (srcKey e) = true ∧ (e.override = false → applyReport base pre (dstKey e) = false)

theorem ValidReport.prefix {base : FS} {p q : List Event} (h : ValidReport base (p ++ q)) : ValidReport base p := by
  intro pre e post hs
  exact h pre e (post ++ q) (by rw [hs]; simp)

theorem ValidReport.nil (base : FS) : ValidReport base [] := fun pre _ _ h => absurd h (by simp)

theorem ValidReport.snoc {base : FS} {evs : List Event} {e : Event} (h : ValidReport base evs)
    (hs : applyReport base evs (srcKey e) = true) (hd : e.override = false → applyReport base evs (dstKey e) = false) :
    ValidReport base (evs ++ [e]) := by
  intro pre e' post hsplit
  rcases List.eq_nil_or_concat post with rfl | ⟨post', b, rfl⟩
  · obtain ⟨rfl, h2⟩ := List.append_inj' hsplit rfl
    cases h2
    exact ⟨hs, hd⟩
  · rw [List.concat_eq_append, ← List.cons_append, ← List.append_assoc] at hsplit
    exact h pre e' post' (List.append_inj' hsplit rfl).1

/-- where a path that exists after a report comes from, and where one that does not has gone -/
theorem applyReport_cases (base : FS) (evs : List Event) (x : APath) :
    (applyReport base evs x = true → lexists base x = true ∨ ∃ e ∈ evs, dstKey e = x) ∧
    (applyReport base evs x = false → lexists base x = false ∨ ∃ e ∈ evs, srcKey e = x) := by
  unfold applyReport
  generalize lexists base = occ
  induction evs generalizing occ with
  | nil => exact ⟨.inl, .inl⟩
  | cons e evs ih =>
    have lift : ∀ {k : Event → APath}, (∃ e' ∈ evs, k e' = x) → ∃ e' ∈ e :: evs, k e' = x :=
      fun ⟨e', he', hk⟩ => ⟨e', List.mem_cons_of_mem _ he', hk⟩
    have here : ∀ {k : Event → APath}, x = k e → ∃ e' ∈ e :: evs, k e' = x := fun hx => ⟨e, List.mem_cons_self, hx.symm⟩
    obtain ⟨ih1, ih2⟩ := ih (applyMove occ (srcKey e) (dstKey e))
    rw [List.foldl_cons]
    -- what the later renames did not touch goes back to `e`, or to before it
    exact ⟨fun h => (ih1 h).elim (fun h => (applyMove_true h).imp_right here) (.inr ∘ lift),
      fun h => (ih2 h).elim (fun h => (applyMove_false h).imp_right here) (.inr ∘ lift)⟩

/-- one call of the specification renamer, as the run sees it: a move that was possible is reported, anything else
    changes neither report nor state, for one of three reasons -/
theorem spec_run_call (r : Run SpecState) (dir : APath) (src dst : PurePath) (ov : Bool) :
    let r' := (r.call specRenamer dir src dst ov).1
    let e : Event := { dir := dir, src := src, dst := dst, override := ov }
    r'.calls = r.calls ++ [(dir, src, dst, ov)] ∧
    ((r'.events = r.events ++ [e] ∧ r'.st.occ = applyMove r.st.occ (srcKey e) (dstKey e) ∧
        r.st.occ (srcKey e) = true ∧ (ov = false → r.st.occ (dstKey e) = false)) ∨
     (r'.events = r.events ∧ r'.st = r.st ∧
        ((r.st.occ (dstKey e) = true ∧ ov = false) ∨ parentOf src ≠ parentOf dst ∨ r.st.occ (srcKey e) = false))) := by
  refine ⟨Run.call_calls .., ?_⟩
  rw [Run.call_st, Run.call_events, Run.call_err]
  rcases specCall_spec r.st dir src dst ov with ⟨⟨e, h⟩, why⟩ | ⟨h, h1, h2⟩ <;>
    rw [show specRenamer.call = specCall from rfl, h]
  · exact .inr ⟨rfl, rfl, why⟩
  · exact .inl ⟨rfl, rfl, h1, h2⟩

/-- the state of the specification renamer is, at every moment of every run, the report so far applied to the
    initial tree, and that report is valid -/
theorem spec_run_valid (base : FS) (files : List FileRec) (gen : Nat → Gen) (strategy : Strategy)
    (answers : List Answer) :
    let run := (execute specRenamer { base := base, occ := lexists base } files gen strategy answers).1
    run.st.occ = applyReport base run.events ∧ ValidReport base run.events := by
  refine execute_induct specRenamer (fun r => r.st.occ = applyReport base r.events ∧ ValidReport base r.events) _
    files gen strategy answers (fun r dir src dst ov ⟨hocc, hval⟩ _ _ => ?_) ⟨rfl, .nil base⟩
  rcases (spec_run_call r dir src dst ov).2 with ⟨hev, ho, h1, h2⟩ | ⟨hev, hst, _⟩
  · rw [hev, ho, applyReport_snoc, ← hocc]
    exact ⟨rfl, hval.snoc (hocc ▸ h1) (hocc ▸ h2)⟩
  · rw [hev, hst]
    exact ⟨hocc, hval⟩

/-- the state of the specification renamer is, at every moment of every run, the report so far applied to the
    initial tree -/
theorem spec_state_is_report (base : FS) (files : List FileRec) (gen : Nat → Gen) (strategy : Strategy)
    (answers : List Answer) :
    let run := (execute specRenamer { base := base, occ := lexists base } files gen strategy answers).1
    run.st.occ = applyReport base run.events :=
  (spec_run_valid base files gen strategy answers).1

/-- **the three runs of a name-mode scenario** — real, dry, specification — report the same renames and end alike,
    and a path exists in the final real tree iff the specification's final map says so -/
theorem name_mode_runs (base : FS) (hw : WF base) (hl : LinkFree base)
    (files : List FileRec) (gen : Nat → Gen) (strategy : Strategy) (answers : List Answer)
    (hplan : ∀ k f, files[k]? = some f → ∀ p, gen k = .path p → p ≠ f.rel → NameCall base f.inputDir f.rel p)
    (hcust : ∀ f ∈ files, ∀ q, Answer.custom q ∈ answers → NameCall base f.inputDir f.rel q) :
    let real := execute realNameRenamer { fs := base } files gen strategy answers
    let dry := execute dryRenamer { base := base } files gen strategy answers
    let spec := execute specRenamer { base := base, occ := lexists base } files gen strategy answers
    real.1.events = dry.1.events ∧ dry.1.events = spec.1.events ∧ real.2 = spec.2 ∧
      ∀ x, lexists real.1.st.fs x = spec.1.st.occ x := by
  -- of the two state relations only the last clauses are used: what exists really, virtually, by the map
  obtain ⟨hev₁, hout₁, _, _, _, _, _, _, hex₁⟩ :=
    runs_agree_on (name_mode_simulation base) _ _ (.init hw hl) files gen strategy answers hplan hcust
  obtain ⟨hev₂, hout₂, _, _, hex₂⟩ := runs_agree_on (dry_refines_spec base) { base := base }
    { base := base, occ := lexists base } ⟨rfl, rfl, fun x => by simp [vexists]⟩ files gen strategy answers hplan hcust
  exact ⟨hev₁, hev₂, hout₁.trans hout₂, fun x => (hex₁ x).trans (hex₂ x)⟩

/-- **C05 (final tree).**  Name mode, link-free tree, any plan / order / strategy / answers of name-mode shape: the tree the
    real run leaves behind has exactly the paths obtained by applying the dry run's report, rename by rename, to the
    initial tree. -/
theorem final_tree_is_report_applied (base : FS) (hw : WF base) (hl : LinkFree base)
    (files : List FileRec) (gen : Nat → Gen) (strategy : Strategy) (answers : List Answer)
    (hplan : ∀ k f, files[k]? = some f → ∀ p, gen k = .path p → p ≠ f.rel → NameCall base f.inputDir f.rel p)
    (hcust : ∀ f ∈ files, ∀ q, Answer.custom q ∈ answers → NameCall base f.inputDir f.rel q) :
    ∀ x, lexists (execute realNameRenamer { fs := base } files gen strategy answers).1.st.fs x =
      applyReport base (execute dryRenamer { base := base } files gen strategy answers).1.events x := by
  obtain ⟨_, hds, _, hx⟩ := name_mode_runs base hw hl files gen strategy answers hplan hcust
  intro x
  rw [hx x, hds]
  exact congrFun (spec_state_is_report base files gen strategy answers) x

/-- what applying a report means, on an example: `a → b` after `b → c` leaves `b` and `c`, not `a` -/
example :
    let base : FS := [⟨["in".toList], 1, .dir, 0⟩, ⟨["in".toList, "a".toList], 2, .file, 1⟩,
                      ⟨["in".toList, "b".toList], 3, .file, 2⟩]
    let evs : List Event := [⟨["in".toList], ⟨false, ["b".toList]⟩, ⟨false, ["c".toList]⟩, false⟩,
                             ⟨["in".toList], ⟨false, ["a".toList]⟩, ⟨false, ["b".toList]⟩, false⟩]
    applyReport base evs ["in".toList, "a".toList] = false ∧ applyReport base evs ["in".toList, "b".toList] = true ∧
    applyReport base evs ["in".toList, "c".toList] = true ∧ applyReport base evs ["in".toList] = true := by
  decide

end C05
end Tempren

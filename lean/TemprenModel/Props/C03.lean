import TemprenModel.Model.Prompt
import TemprenModel.Props.C02
/-!
# C03 — Each conflict strategy does what its flag documents

Decision-logic theorems over the pipeline model and over the tables extracted from cli.py
(exit codes, `except` order, prompt options).  The statements that need the whole plan
(`stop_only_on_real_conflict`, `ignore_renames_all_free`) are the contrapositive/complement of
`C02.free_plan_succeeds_name_mode`; a single conflict is followed through both passes for every strategy
(`single_conflict_run`).  The converse for stop: C03Spec.lean; ignore for any plan: C03Ignore.lean, C03IgnorePaths.lean.
-/
namespace Tempren
namespace C03

/-- exit statuses (E3): success 0, a destination conflict 1, an invalid destination 1, anything else 126 -/
theorem exit_status_table :
    Outcome.done.exitStatus = 0 ∧ Outcome.destExists.exitStatus = 1 ∧ Outcome.invalidDest.exitStatus = 1 ∧
    Outcome.crash.exitStatus = 126 := exitStatus_table

/-- the empty answer means ignore -/
theorem prompt_empty_is_ignore : promptParse [] = some "ignore".toList := by decide

/-- no two options start with the same letter … -/
theorem prompt_first_letters_distinct : (Extracted.promptOptions.map (fun o => o.1.head?)).Nodup := by
  unfold Extracted.promptOptions
  repeat rw [String.toList_ofList]
  decide

/-- … so a non-empty answer is a prefix of at most one option name: prefixes are unambiguous -/
theorem promptParse_unambiguous (t : List Char) (ht : t ≠ []) (o₁ o₂ : List Char × List Char)
    (h₁ : o₁ ∈ Extracted.promptOptions) (h₂ : o₂ ∈ Extracted.promptOptions)
    (p₁ : t <+: o₁.1) (p₂ : t <+: o₂.1) : o₁ = o₂ := by
  have hhead : o₁.1.head? = o₂.1.head? := by
    cases t with
    | nil => exact absurd rfl ht
    | cons c r =>
      obtain ⟨s₁, e₁⟩ := p₁
      obtain ⟨s₂, e₂⟩ := p₂
      rw [← e₁, ← e₂]; rfl
  exact uniq_of_nodup_map (fun o : List Char × List Char => o.1.head?) Extracted.promptOptions
    prompt_first_letters_distinct o₁ h₁ o₂ h₂ hhead

/-- every non-empty prefix of an option name, in any (ASCII) letter case, selects that option -/
theorem promptParse_prefix (line : List Char) (o : List Char × List Char) (ho : o ∈ Extracted.promptOptions)
    (hne : asciiLower line ≠ []) (hp : asciiLower line <+: o.1) : promptParse line = some o.2 := by
  unfold promptParse promptParseWith
  simp only [show Extracted.promptLowercases = true by decide, if_true, hne, if_false]
  cases hf : Extracted.promptOptions.find? (fun o => (asciiLower line).isPrefixOf o.1) with
  | none =>
    rw [List.find?_eq_none] at hf
    exact absurd (List.isPrefixOf_iff_prefix.mpr hp) (by simpa using hf o ho)
  | some o' =>
    have hm := List.mem_of_find?_eq_some hf
    have hp' := List.find?_some hf
    simp only [List.isPrefixOf_iff_prefix] at hp'
    have := promptParse_unambiguous _ hne o' o hm ho hp' hp
    rw [this]; rfl

/-- anything that is not a prefix of an option name is an invalid choice (the prompt repeats) -/
theorem promptParse_garbage (line : List Char) (hne : asciiLower line ≠ [])
    (h : ∀ o ∈ Extracted.promptOptions, ¬ asciiLower line <+: o.1) : promptParse line = none := by
  unfold promptParse promptParseWith
  simp only [show Extracted.promptLowercases = true by decide, if_true, hne, if_false]
  have : Extracted.promptOptions.find? (fun o => (asciiLower line).isPrefixOf o.1) = none := by
    rw [List.find?_eq_none]
    intro o ho
    simp only [List.isPrefixOf_iff_prefix]
    exact h o ho
  rw [this]; rfl

/-- the four options of the prompt and what they answer -/
theorem prompt_options :
    Extracted.promptOptions.map (·.2) = ["ignore".toList, "stop".toList, "override".toList, "custom".toList] := by
  unfold Extracted.promptOptions
  simp only [List.map_cons, List.map_nil]

variable {σ : Type}

def strategyOfAnswer : Answer → Option Strategy
  | .stop => some .stop
  | .ignore => some .ignore
  | .override => some .override
  | .custom _ => none

/-- **manual = flag, answer by answer**: answering stop / ignore / override at the prompt does exactly
    what the corresponding command-line flag does for this conflict -/
theorem manual_as_flag (R : Renamer σ) (r : Run σ) (dir : APath) (src dst : PurePath) (a : Answer)
    (as : List Answer) (s : Strategy) (h : strategyOfAnswer a = some s) :
    resolveConflict R r dir src dst .manual (a :: as) = resolveConflict R r dir src dst s as := by
  cases a <;> simp [strategyOfAnswer] at h <;> subst h <;> rfl

/-- a custom path is subject to the containment check (F18) and is then tried with override = False:
    it can fail, it cannot overwrite (see C01) and it cannot leave the input directory (see C06) -/
theorem custom_path_guarded (R : Renamer σ) (r : Run σ) (dir : APath) (src dst p : PurePath) (as : List Answer) :
    (contained (R.view r.st) dir p = .ok true →
      (resolveConflict R r dir src dst .manual (.custom p :: as)).1.calls = r.calls ++ [(dir, src, p, false)]) ∧
    (contained (R.view r.st) dir p ≠ .ok true →
      (resolveConflict R r dir src dst .manual (.custom p :: as)).1 = r ∧
      (resolveConflict R r dir src dst .manual (.custom p :: as)).2.2 ≠ none) := by
  simp only [resolveConflict]
  have := Run.call_calls R r dir src p false
  constructor
  · intro hc
    rw [hc]
    simp only
    split <;> (rename_i heq; rw [heq] at this; exact this)
  · intro hc
    cases hcc : contained (R.view r.st) dir p with
    | error e => cases e <;> simp
    | ok b =>
      cases b with
      | false => simp
      | true => exact absurd hcc hc

/-- ignore never ends the run with the conflict status -/
theorem ignore_never_stops (R : Renamer σ) (r : Run σ) (dir : APath) (src dst : PurePath) (as : List Answer) :
    (resolveConflict R r dir src dst .ignore as) = (r, as, none) := rfl

/-- stop ends the run with the conflict status without another renamer call -/
theorem stop_stops (R : Renamer σ) (r : Run σ) (dir : APath) (src dst : PurePath) (as : List Answer) :
    (resolveConflict R r dir src dst .stop as) = (r, as, some .destExists) := rfl

/-- override replaces: renaming a non-directory onto an existing non-directory puts the source's
    identity and content at the destination and nothing else there -/
theorem override_replaces (fs fs' : FS) (a b : APath) (ea eb : Entry) (hn : pathsNodup fs)
    (ha : fs.find a = some ea) (hb : fs.find b = some eb) (hab : a ≠ b) (hka : ea.kind ≠ .dir) (hkb : eb.kind ≠ .dir)
    (h : renameAbs fs a b = .ok fs') :
    (∃ e ∈ fs', e.path = b ∧ e.id = ea.id ∧ e.content = ea.content) ∧ (∀ e ∈ fs', e.path = b → e.id = ea.id) := by
  obtain ⟨h1, h2⟩ := renameAbs_dst hn ha hab h
  exact ⟨⟨_, h1, rfl, rfl, rfl⟩, fun e he hp => by rw [h2 e he hp]⟩

/-- **stop only on a real conflict** (name mode, link-free trees): if the run under `--conflict-stop` ends
    with the conflict status, the plan was not free (`C02.FreePlan`) — two files with one destination, a destination
    that already existed, a source given twice or missing, or a rename that is not of name-mode shape -/
theorem stop_only_on_real_conflict (base : FS) (hw : WF base) (hl : LinkFree base) (files : List FileRec)
    (gen : Nat → Gen) (answers : List Answer) (hnocustom : ∀ q, Answer.custom q ∉ answers)
    (h : (execute realNameRenamer { fs := base } files gen .stop answers).2 = .destExists) :
    ¬ C02.FreePlan base files gen := by
  intro hfree
  have := (C02.free_plan_succeeds_name_mode base hw hl files gen .stop answers hfree hnocustom).1
  rw [this] at h
  cases h

/-- **ignore renames everything that is free** (name mode, link-free trees): under a free plan the run
    under `--conflict-ignore` ends successfully and has renamed every file whose generated name differs -/
theorem ignore_renames_all_free (base : FS) (hw : WF base) (hl : LinkFree base) (files : List FileRec)
    (gen : Nat → Gen) (answers : List Answer) (hnocustom : ∀ q, Answer.custom q ∉ answers)
    (hfree : C02.FreePlan base files gen) :
    (execute realNameRenamer { fs := base } files gen .ignore answers).2.exitStatus = 0 ∧
    (execute realNameRenamer { fs := base } files gen .ignore answers).1.events.map C02.moveOf = C02.planned gen 0 files := by
  obtain ⟨h1, h2, _⟩ := C02.free_plan_succeeds_name_mode base hw hl files gen .ignore answers hfree hnocustom
  rw [h1]
  exact ⟨exitStatus_table.1, h2⟩

/-- concrete answers (a test of the extracted table, labelled as such): prefixes in any letter case, the
    empty line, garbage -/
example : promptParse "OvEr".toList = some "override".toList ∧ promptParse "c".toList = some "custom".toList ∧
    promptParse "custom pa".toList = some "custom".toList ∧ promptParse [] = some "ignore".toList ∧
    promptParse "S".toList = some "stop".toList ∧ promptParse "stopp".toList = none ∧ promptParse "x".toList = none := by
  decide +kernel

/-- **one conflict, through both passes** (any renamer): a single file whose first attempt is refused because its
    destination exists.  The first pass defers it, the retry (F20: after the containment check has been repeated) is
    refused again, and the run ends as the conflict resolution ends. -/
theorem single_conflict_run (R : Renamer σ) (st : σ) (f : FileRec) (p : PurePath) (s : Strategy) (as : List Answer)
    (hne : p ≠ f.rel) (hcont : contained (R.view st) f.inputDir p = .ok true)
    (href : R.call st f.inputDir f.rel p false = (st, some .destExists)) :
    execute R st [f] (fun _ => .path p) s as =
      match resolveConflict R { st := st, calls := [(f.inputDir, f.rel, p, false), (f.inputDir, f.rel, p, false)] }
          f.inputDir f.rel p s as with
      | (r, _, none) => (r, .done)
      | (r, _, some o) => (r, o) := by
  simp only [execute, firstPass, secondPass, hne, if_false, hcont, Run.call_eq, href, RenErr.isFileExists, if_true,
    List.nil_append, List.reverse_cons, List.reverse_nil, List.cons_append, reduceCtorEq]
  generalize resolveConflict R _ f.inputDir f.rel p s as = rc
  obtain ⟨r, as', o⟩ := rc
  cases o <;> rfl

theorem fileRenamer_refuses (base : FS) (hl : LinkFree base) {dir : APath} {src dst : PurePath}
    (hG : C05.NameCall base dir src dst) (hdst : lexists base (absKey dir dst) = true) :
    fileRenamer { fs := base } dir src dst false = ({ fs := base }, some .destExists) := by
  unfold fileRenamer
  rw [hG.resolved.lexistsRel_dst hl (fun _ => rfl), hdst]
  rfl

/-- **override, through both passes** (name mode, link-free tree): one selected file whose generated name is
    taken by another, unselected, leaf.  Under `--conflict-override` the first pass defers the rename, the retry
    meets the conflict again, the resolution renames with override: the run exits 0, reports the rename with the
    override marker, and the destination path now holds the SOURCE's entry (identity and content); the entry that
    was there is gone and every other entry is where it was. -/
theorem override_run_replaces (base : FS) (hw : WF base) (hl : LinkFree base) (f : FileRec) (p : PurePath)
    (answers : List Answer) (hG : C05.NameCall base f.inputDir f.rel p)
    (hsrc : lexists base (absKey f.inputDir f.rel) = true) (hdst : lexists base (absKey f.inputDir p) = true) :
    (execute realNameRenamer { fs := base } [f] (fun _ => .path p) .override answers).2.exitStatus = 0 ∧
    (execute realNameRenamer { fs := base } [f] (fun _ => .path p) .override answers).1.events =
      [{ dir := f.inputDir, src := f.rel, dst := p, override := true }] ∧
    ∃ ea, base.find (absKey f.inputDir f.rel) = some ea ∧
      ∀ e', e' ∈ (execute realNameRenamer { fs := base } [f] (fun _ => .path p) .override answers).1.st.fs ↔
        (e' = { ea with path := absKey f.inputDir p } ∨
          (e' ∈ base ∧ e'.path ≠ absKey f.inputDir f.rel ∧ e'.path ≠ absKey f.inputDir p)) := by
  have hR := hG.resolved
  obtain ⟨ea, ha⟩ := Option.isSome_iff_exists.mp (hR.lexists_src base ▸ hsrc)
  have hcall : fileRenamer { fs := base } f.inputDir f.rel p true = _ := hR.fileRenamer_eq hw hl (fun _ => rfl) rfl true
  rw [if_neg (by simp), ha] at hcall
  rw [single_conflict_run _ _ f p _ _ hR.dst_ne (hR.contained_eq hl) (fileRenamer_refuses base hl hG hdst)]
  simp only [resolveConflict, Run.call_eq, show realNameRenamer.call = fileRenamer from rfl, hcall, if_true]
  exact ⟨exit_status_table.1, rfl, ea, ha, fun e' => (hR.toLeafMove hw (fun _ => rfl) ha).mem⟩

/-- **stop and ignore, through both passes**: the same single conflict.  Under `--conflict-stop` the run ends with
    status 1, under `--conflict-ignore` with status 0; in both cases nothing is reported and the tree is the
    initial tree (the renamer was called twice, both calls refused). -/
theorem conflict_run_stop_ignore (base : FS) (hl : LinkFree base) (f : FileRec) (p : PurePath)
    (answers : List Answer) (hG : C05.NameCall base f.inputDir f.rel p)
    (hdst : lexists base (absKey f.inputDir p) = true) :
    (execute realNameRenamer { fs := base } [f] (fun _ => .path p) .stop answers).2.exitStatus = 1 ∧
    (execute realNameRenamer { fs := base } [f] (fun _ => .path p) .stop answers).1.events = [] ∧
    (execute realNameRenamer { fs := base } [f] (fun _ => .path p) .stop answers).1.st.fs = base ∧
    (execute realNameRenamer { fs := base } [f] (fun _ => .path p) .ignore answers).2.exitStatus = 0 ∧
    (execute realNameRenamer { fs := base } [f] (fun _ => .path p) .ignore answers).1.events = [] ∧
    (execute realNameRenamer { fs := base } [f] (fun _ => .path p) .ignore answers).1.st.fs = base := by
  have hR := hG.resolved
  have hrun := fun s => single_conflict_run realNameRenamer { fs := base } f p s answers hR.dst_ne (hR.contained_eq hl)
    (fileRenamer_refuses base hl hG hdst)
  rw [hrun .stop, hrun .ignore]
  exact ⟨exit_status_table.2.1, rfl, rfl, exit_status_table.1, rfl, rfl⟩

end C03
end Tempren

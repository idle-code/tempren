import TemprenModel.Props.C05
/-!
# C06 — no renamer call without a positive containment verdict on the very state it acts on

Run level, for **every** renamer, mode, tree, file list, plan, order and answer script.  `withLog R` is `R` with an
observer: before delegating a call it records whether `(input_directory / destination).resolve()` lies inside the input
directory *in the state the call is about to act on*.  `withLog_transparent`: the observer changes nothing (same reported
renames, same outcome, same final state).  `every_call_checked`: as long as override is not chosen, every entry of the
log is `true` — the generated path of the first pass (F4), the retried path of the second pass (F20: checked again, on
the tree as it is *then*) and a custom path typed at the prompt (F18) are each checked immediately before the call, with no
state change in between.  (An overriding call repeats, without a new check, the destination that was checked before the
refused attempt; it is the one exception and the reason for the `NoOverride` premise.)
-/
namespace Tempren
namespace C06
variable {σ : Type}

def isOkTrue : Except Errno Bool → Bool
  | .ok true => true
  | _ => false

/-- `R` observed: the log gets one Boolean per call — was the destination contained, in the state the call acts on? -/
def withLog (R : Renamer σ) : Renamer (σ × List Bool) :=
  { call := fun s dir src dst ov =>
      ((( R.call s.1 dir src dst ov).1, s.2 ++ [isOkTrue (contained (R.view s.1) dir dst)]),
       (R.call s.1 dir src dst ov).2),
    view := fun s => R.view s.1 }

/-- the observer is transparent: same reported renames, same outcome, same final renamer state -/
theorem withLog_transparent (R : Renamer σ) (st : σ) (files : List FileRec) (gen : Nat → Gen)
    (strategy : Strategy) (answers : List Answer) :
    (execute R st files gen strategy answers).1.events = (execute (withLog R) (st, []) files gen strategy answers).1.events ∧
    (execute R st files gen strategy answers).2 = (execute (withLog R) (st, []) files gen strategy answers).2 ∧
    (execute R st files gen strategy answers).1.st = (execute (withLog R) (st, []) files gen strategy answers).1.st.1 := by
  have sim : C05.Simulation R (withLog R) (fun s₁ s₂ => s₁ = s₂.1) :=
    { call := by
        intro s₁ s₂ dir src dst ov h _
        subst h
        exact ⟨rfl, C05.ErrSim.refl _⟩
      view := by
        intro s₁ s₂ dir p h
        subst h
        rfl }
  exact C05.runs_agree sim st (st, []) rfl files gen strategy answers

/-- **C06 (run level).**  Whatever the renamer, the tree, the files, the plan, the order and the answers: unless override
    is chosen, every renamer call of the run — first attempt, retry of a deferred rename, custom path — was made on a
    state in which its destination had just been found to lie inside the file's input directory. -/
theorem every_call_checked (R : Renamer σ) (st : σ) (files : List FileRec) (gen : Nat → Gen) (strategy : Strategy)
    (answers : List Answer) (hs : NoOverride strategy answers) :
    ∀ b ∈ (execute (withLog R) (st, []) files gen strategy answers).1.st.2, b = true := by
  refine execute_induct_noOverride (withLog R) (fun r => ∀ b ∈ r.st.2, b = true) _ files gen strategy answers hs ?_
    (by simp)
  intro r dir src dst h hc b hb
  have hc' : contained (R.view r.st.1) dir dst = .ok true := hc
  rw [Run.call_st] at hb
  simp only [withLog, hc', isOkTrue, List.mem_append, List.mem_singleton] at hb
  exact hb.elim (h b) id

/-- and the log has one entry per call: nothing escapes the observer -/
theorem log_length (R : Renamer σ) (r : Run (σ × List Bool)) (dir : APath) (src dst : PurePath) (ov : Bool) :
    (r.call (withLog R) dir src dst ov).1.st.2.length = r.st.2.length + 1 := by
  rw [Run.call_st]
  simp [withLog]

end C06
end Tempren

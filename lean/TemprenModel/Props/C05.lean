import TemprenModel.Lemmas.PipelineLemmas
import TemprenModel.Lemmas.NameMode
/-!
# C05 — A dry run predicts exactly what the real run then does

`runs_agree` is the refinement theorem of the pipeline: if two renamers are in simulation — there
is a relation between their states that every pair of corresponding calls preserves while failing
or succeeding alike, and under which the containment check gives the same verdict — then the two
runs report the same sequence of renames (source, destination, override marker) and end the same
way, for every file list, plan, order, strategy and answer sequence.
The simulation premise for `DryRunRenamer` vs `FileRenamer` (relation: a path exists in the real
tree iff it is virtually present in the dry state) is proved for name mode on link-free trees
(`name_mode_simulation`); path and directory mode are tied by correspondence only.
-/
namespace Tempren
namespace C05
variable {σ₁ σ₂ : Type}

/-- a simulation between two renamers, required only for the calls that satisfy the guard `G`
    (directory, source, destination) -/
structure SimulationOn (R₁ : Renamer σ₁) (R₂ : Renamer σ₂) (S : σ₁ → σ₂ → Prop)
    (G : APath → PurePath → PurePath → Prop) : Prop where
  call : ∀ s₁ s₂ dir src dst ov, S s₁ s₂ → G dir src dst →
    S (R₁.call s₁ dir src dst ov).1 (R₂.call s₂ dir src dst ov).1 ∧
    ErrSim (R₁.call s₁ dir src dst ov).2 (R₂.call s₂ dir src dst ov).2
  view : ∀ s₁ s₂ dir p, S s₁ s₂ → contained (R₁.view s₁) dir p = contained (R₂.view s₂) dir p

/-- the unguarded simulation -/
abbrev Simulation (R₁ : Renamer σ₁) (R₂ : Renamer σ₂) (S : σ₁ → σ₂ → Prop) : Prop :=
  SimulationOn R₁ R₂ S (fun _ _ _ => True)

section
variable {R₁ : Renamer σ₁} {R₂ : Renamer σ₂} {S : σ₁ → σ₂ → Prop} {G : APath → PurePath → PurePath → Prop}
  (sim : SimulationOn R₁ R₂ S G)
include sim

/-- **C05 (refinement, guarded)**: if the renamers are in simulation for all calls satisfying `G`, and every
    call the plan and the answers can give rise to satisfies `G`, the two runs report the same renames, in
    the same order, with the same override markers, and end the same way -/
theorem runs_agree_on (s₁ : σ₁) (s₂ : σ₂) (h0 : S s₁ s₂) (files : List FileRec) (gen : Nat → Gen)
    (strategy : Strategy) (answers : List Answer)
    (hplan : ∀ k f, files[k]? = some f → ∀ p, gen k = .path p → p ≠ f.rel → G f.inputDir f.rel p)
    (hcust : ∀ f ∈ files, ∀ q, Answer.custom q ∈ answers → G f.inputDir f.rel q) :
    (execute R₁ s₁ files gen strategy answers).1.events = (execute R₂ s₂ files gen strategy answers).1.events ∧
    (execute R₁ s₁ files gen strategy answers).2 = (execute R₂ s₂ files gen strategy answers).2 ∧
    S (execute R₁ s₁ files gen strategy answers).1.st (execute R₂ s₂ files gen strategy answers).1.st := by
  have := execute_rel (Q := fun r₁ r₂ => S r₁.st r₂.st ∧ r₁.events = r₂.events) files gen strategy answers
    (fun r₁ r₂ dir p h => sim.view _ _ dir p h.1)
    (fun r₁ r₂ dir src dst ov h hg _ _ => by
      obtain ⟨hs, he⟩ := sim.call _ _ dir src dst ov h.1 hg
      rw [Run.call_st, Run.call_st, Run.call_events, Run.call_events, Run.call_err, Run.call_err]
      refine ⟨⟨hs, ?_⟩, he⟩
      generalize (R₁.call r₁.st dir src dst ov).2 = e₁ at he
      generalize (R₂.call r₂.st dir src dst ov).2 = e₂ at he
      cases e₁ <;> cases e₂ <;> simp only [ErrSim] at he <;> simp [h.2])
    hplan hcust s₁ s₂ ⟨h0, rfl⟩
  exact ⟨this.1.2, this.2, this.1.1⟩
end

/-- **C05 (refinement)**: renamers in (unguarded) simulation make the pipeline report the same renames, in
    the same order, with the same override markers, and end the same way -/
theorem runs_agree {R₁ : Renamer σ₁} {R₂ : Renamer σ₂} {S : σ₁ → σ₂ → Prop} (sim : Simulation R₁ R₂ S)
    (s₁ : σ₁) (s₂ : σ₂) (h0 : S s₁ s₂) (files : List FileRec) (gen : Nat → Gen)
    (strategy : Strategy) (answers : List Answer) :
    (execute R₁ s₁ files gen strategy answers).1.events = (execute R₂ s₂ files gen strategy answers).1.events ∧
    (execute R₁ s₁ files gen strategy answers).2 = (execute R₂ s₂ files gen strategy answers).2 ∧
    S (execute R₁ s₁ files gen strategy answers).1.st (execute R₂ s₂ files gen strategy answers).1.st :=
  runs_agree_on sim s₁ s₂ h0 files gen strategy answers (fun _ _ _ _ _ _ => trivial) (fun _ _ _ _ => trivial)

/-- the effect of one successful dry-run call on virtual existence: afterwards the destination exists,
    the source (when different) does not, and every other path is exactly as before —
    what a rename of a leaf does to the real tree -/
theorem dry_call_effect (sameDir : Bool) (d : DryState) (cwd : APath) (src dst : PurePath) (ov : Bool)
    (h : (dryRunRenamerWith sameDir d cwd src dst ov).2 = none) (hne : absKey cwd src ≠ absKey cwd dst) :
    let d' := (dryRunRenamerWith sameDir d cwd src dst ov).1
    vexists d' (absKey cwd dst) = true ∧ vexists d' (absKey cwd src) = false ∧
    ∀ k, k ≠ absKey cwd src → k ≠ absKey cwd dst → vexists d' k = vexists d k := by
  have hst : (dryRunRenamerWith sameDir d cwd src dst ov).1 =
      { d with removed := (d.removed ++ [absKey cwd src]).filter (· ≠ absKey cwd dst),
               created := (d.created ++ [absKey cwd dst]).filter (· ≠ absKey cwd src) } := by
    rcases dryRunRenamerWith_cases sameDir d cwd src dst ov with ⟨e, he⟩ | he
    · rw [he] at h; cases h
    · rw [he]
  intro d'
  have hm : ∀ k, vexists d' k = applyMove (vexists d) (absKey cwd src) (absKey cwd dst) k :=
    fun k => (congrArg (vexists · k) hst).trans (vexists_move d hne k)
  refine ⟨by simp [hm, applyMove], by simp [hm, applyMove, hne], fun k hs hd => by simp [hm, applyMove, hs, hd]⟩

/-! ### the simulation premise, proved for name mode -/

/-- the state relation: the dry-run state is virtually what the real tree is (no fault is injected, no
    symbolic links, the directories are those of the initial tree) -/
def NameSim (base : FS) (s₁ : RealState) (s₂ : DryState) : Prop :=
  s₂.base = base ∧ s₁.faultAt = none ∧ WF s₁.fs ∧ LinkFree s₁.fs ∧ LinkFree base ∧
  (∀ p, isDirAt s₁.fs p = isDirAt base p) ∧ (∀ p, lexists s₁.fs p = vexists s₂ p)

theorem NameSim.init {base : FS} (hw : WF base) (hl : LinkFree base) : NameSim base { fs := base } { base := base } :=
  ⟨rfl, rfl, hw, hl, hl, fun _ => rfl, fun p => by simp [vexists]⟩

/-- **the dry-run renamer simulates the in-place renamer** on every name-mode call -/
theorem name_mode_simulation (base : FS) :
    SimulationOn realNameRenamer dryRenamer (NameSim base) (NameCall base) where
  view := by
    intro s₁ s₂ dir p ⟨hb, _, _, hl1, hl2, _, _⟩
    show contained s₁.fs dir p = contained s₂.base dir p
    rw [hb, linkFree_resolve hl1, linkFree_resolve hl2]
  call := by
    intro s₁ s₂ dir src dst ov hS hG
    have ⟨hb, hfault, hw, hl1, hl2, hdirs, hex⟩ := hS
    have hR := hG.resolved
    show NameSim base (fileRenamer s₁ dir src dst ov).1 (dryRunRenamerWith true s₂ dir src dst ov).1 ∧
      ErrSim (fileRenamer s₁ dir src dst ov).2 (dryRunRenamerWith true s₂ dir src dst ov).2
    rw [hR.fileRenamer_eq hw hl1 hdirs hfault, hR.dryRunRenamer_eq, ← hex, ← hex, Bool.and_comm]
    split
    · exact ⟨hS, .refl _⟩
    · rw [hR.lexists_src]
      cases ha : s₁.fs.find (absKey dir src) with
      | none => exact ⟨hS, rfl, rfl, by simp⟩
      | some ea =>
        have hm := hR.toLeafMove hw hdirs ha
        rw [if_neg (by simp)]
        exact ⟨⟨hb, hfault, hm.wf', linkFree_moved hl1 _ _, hl2, fun p => by rw [← hdirs]; exact hm.isDirAt_eq p,
          fun p => by rw [vexists_move s₂ hR.ne]; simp only [hm.lexists_eq, applyMove, hex]⟩, trivial⟩

/-- **C05, name mode**: on a link-free tree, for every file list, plan, processing order, strategy and
    scripted stop/ignore/override answers — free, colliding, chained and cyclic plans alike — whose calls have
    the name-mode shape (`NameCall`: plain names within one directory, neither source nor destination a
    directory), the dry run reports exactly the renames the real run performs, in the same order, with the
    same override markers, and ends with the same outcome (hence exit status). -/
theorem dry_run_predicts_name_mode (base : FS) (hw : WF base) (hl : LinkFree base)
    (files : List FileRec) (gen : Nat → Gen) (strategy : Strategy) (answers : List Answer)
    (hplan : ∀ k f, files[k]? = some f → ∀ p, gen k = .path p → p ≠ f.rel → NameCall base f.inputDir f.rel p)
    (hnocustom : ∀ q, Answer.custom q ∉ answers) :
    (execute realNameRenamer { fs := base } files gen strategy answers).1.events =
      (execute dryRenamer { base := base } files gen strategy answers).1.events ∧
    (execute realNameRenamer { fs := base } files gen strategy answers).2 =
      (execute dryRenamer { base := base } files gen strategy answers).2 := by
  have := runs_agree_on (name_mode_simulation base) _ _ (.init hw hl) files gen strategy answers hplan
    (fun f _ q hq => absurd hq (hnocustom q))
  exact ⟨this.1, this.2.1⟩

/-- the hypotheses are satisfiable: two files of one directory, one to be renamed onto the other -/
example :
    let base : FS := [⟨["in".toList], 1, .dir, 0⟩, ⟨["in".toList, "a".toList], 2, .file, 1⟩,
                      ⟨["in".toList, "b".toList], 3, .file, 2⟩]
    NameCall base ["in".toList] ⟨false, ["a".toList]⟩ ⟨false, ["b".toList]⟩ ∧ LinkFree base := by
  intro base
  refine ⟨.top (by decide), fun e he t => ?_⟩
  simp only [base, List.mem_cons, List.not_mem_nil, or_false] at he
  rcases he with rfl | rfl | rfl <;> simp

end C05
end Tempren

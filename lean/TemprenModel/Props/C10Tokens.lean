import TemprenModel.Props.C10
/-!
# C10 — whole trees, token level

`parse_print_tokens`: for every template tree `p` (any nesting depth, any number of elements and arguments) the parser
applied to the printer's token sequence `tokPat st p` returns `p`, in every printing style.
-/
namespace Tempren
namespace C10

def ValOk (v : ArgVal) : Prop := ∀ i, v = .int i → (natDigits i.natAbs).length ≤ intMaxStrDigits
def StyleOk (st : Style) : Prop := boolValue st.trueWord = true ∧ boolValue st.falseWord = false

theorem parseValue_tokVal (st : Style) (hst : StyleOk st) (v : ArgVal) (hv : ValOk v) (rest : List Tok) :
    parseValue (tokVal st v :: rest) = some (v, rest) := by
  have h := parseValue_print st v rest hv hst.1 hst.2
  cases v <;> exact h

theorem parseArgument_tokArg (st : Style) (hst : StyleOk st) (a : Option (List Char) × ArgVal) (hv : ValOk a.2)
    (rest : List Tok) (hrest : rest.head? ≠ some .eq) :
    parseArgument (tokArg st a ++ rest) = some (a, rest) := by
  obtain ⟨k, v⟩ := a
  have h := parseValue_tokVal st hst v hv rest
  cases k with
  | none =>
    cases v <;> simp only [tokArg, tokVal, List.cons_append, List.nil_append, parseArgument] at h ⊢ <;> rw [h] <;> rfl
  | some k =>
    simp only [tokArg]
    split
    · obtain rfl : v = .bool true := ‹_ ∧ _›.2
      unfold parseArgument
      split
      · rename_i heq; cases heq; simp at hrest
      · rename_i heq; cases heq; rfl
      · rename_i _ hne; exact absurd rfl (hne k rest)
    · simp [parseArgument, h]

theorem tokMoreArgs_head (st : Style) (as : List (Option (List Char) × ArgVal)) (rest : List Tok) :
    (tokMoreArgs st as ++ rest).head? ≠ some .eq := by
  cases as <;> simp [tokMoreArgs]

/-- where an argument can be read the list does not begin with ARGS_END, so the argument list is that argument and what
    `parseMoreArgs` reads behind it -/
theorem parseArgList_of_arg {ts t' : List Tok} {a : Option (List Char) × ArgVal} (h : parseArgument ts = some (a, t'))
    (fuel : Nat) : parseArgList fuel ts = (parseMoreArgs fuel t').map (fun r => (a :: r.1, r.2)) := by
  unfold parseArgList
  split
  · simp [parseArgument, parseValue] at h
  · rw [h]

theorem parseMoreArgs_tok (st : Style) (hst : StyleOk st) : ∀ (as : List (Option (List Char) × ArgVal)),
    (∀ a ∈ as, ValOk a.2) → ∀ (fuel : Nat) (rest : List Tok), as.length < fuel →
      parseMoreArgs fuel (tokMoreArgs st as ++ rest) = some (as, rest)
  | [], _, _ + 1, _, _ => rfl
  | a :: t, hv, f + 1, rest, hf => by
    have ha := parseArgument_tokArg st hst a (hv a (by simp)) _ (tokMoreArgs_head st t rest)
    simp only [tokMoreArgs, List.cons_append, List.append_assoc, parseMoreArgs, ha,
      parseMoreArgs_tok st hst t (fun x hx => hv x (by simp [hx])) f rest (by simpa using hf), Option.map]

theorem parseArgList_tok (st : Style) (hst : StyleOk st) (as : List (Option (List Char) × ArgVal))
    (hv : ∀ a ∈ as, ValOk a.2) (fuel : Nat) (rest : List Tok) (hf : as.length ≤ fuel) :
    parseArgList fuel (tokArgList st as ++ rest) = some (as, rest) := by
  cases as with
  | nil => rfl
  | cons a t =>
    have ha := parseArgument_tokArg st hst a (hv a (by simp)) _ (tokMoreArgs_head st t rest)
    rw [tokArgList, List.append_assoc, parseArgList_of_arg ha,
      parseMoreArgs_tok st hst t (fun x hx => hv x (by simp [hx])) fuel rest hf]
    rfl

theorem kwInsert_fresh (k : List Char) (v : ArgVal) :
    ∀ (acc : List (List Char × ArgVal)), k ∉ acc.map (·.1) → kwInsert acc k v = acc ++ [(k, v)] := by
  intro acc
  induction acc with
  | nil => intro _; rfl
  | cons x t ih =>
    intro h
    obtain ⟨k', v'⟩ := x
    simp only [List.map_cons, List.mem_cons, not_or] at h
    have hne : k' ≠ k := fun e => h.1 e.symm
    simp only [kwInsert, hne, if_false, ih h.2, List.cons_append]

theorem foldl_kwInsert (kws : List (List Char × ArgVal)) : ∀ (acc : List (List Char × ArgVal)),
    (acc.map (·.1) ++ kws.map (·.1)).Nodup → kws.foldl (fun acc kv => kwInsert acc kv.1 kv.2) acc = acc ++ kws := by
  induction kws with
  | nil => intro acc _; simp
  | cons kv t ih =>
    intro acc h
    have hfresh : kv.1 ∉ acc.map (·.1) := fun hm => (List.nodup_append.mp h).2.2 _ hm _ (by simp) rfl
    rw [List.foldl_cons, kwInsert_fresh kv.1 kv.2 acc hfresh, ih _ (by simpa [List.append_assoc] using h)]
    simp

theorem splitArgs_argsOf (args : List ArgVal) (kwargs : List (List Char × ArgVal)) (hk : (kwargs.map (·.1)).Nodup) :
    splitArgs (argsOf args kwargs) = (args, kwargs) := by
  unfold splitArgs argsOf
  congr 1
  · simp [List.filterMap_map, Function.comp_def]
  · have hpos : ∀ l : List ArgVal, l.foldl (fun (acc : List (List Char × ArgVal)) _ => acc) [] = [] := by
      intro l; induction l <;> simp_all
    simp only [List.foldl_append, List.foldl_map, hpos]
    simpa using foldl_kwInsert kwargs [] (by simpa using hk)

mutual
  /-- what can be printed and read back: raw text not ending in a backslash (the backslash would protect what follows),
      integers within CPython's digit limit (K4), argument names used once -/
  def WFElem : Elem → Prop
    | .raw s => s.getLast? ≠ some '\\'
    | .tag _ _ args kwargs ctx =>
      (∀ v ∈ args, ValOk v) ∧ (∀ kv ∈ kwargs, ValOk kv.2) ∧ (kwargs.map (·.1)).Nodup ∧
      (match ctx with | some p => WFPat p | none => True)
  def WFPat : Pat → Prop
    | .nil => True
    | .cons e p => WFElem e ∧ WFPat p
end

theorem ofList_toList : ∀ p : Pat, Pat.ofList p.toList = p
  | .nil => rfl
  | .cons e p => by simp [Pat.toList, Pat.ofList, ofList_toList p]

theorem argsOf_valok (args : List ArgVal) (kwargs : List (List Char × ArgVal))
    (ha : ∀ v ∈ args, ValOk v) (hk : ∀ kv ∈ kwargs, ValOk kv.2) : ∀ a ∈ argsOf args kwargs, ValOk a.2 := by
  intro a hm
  simp only [argsOf, List.mem_append, List.mem_map] at hm
  rcases hm with ⟨v, hv, rfl⟩ | ⟨kv, hkv, rfl⟩
  · exact ha v hv
  · exact hk kv hkv

theorem tokMoreArgs_length (st : Style) (as : List (Option (List Char) × ArgVal)) :
    as.length + 1 ≤ (tokMoreArgs st as).length := by
  induction as with
  | nil => simp [tokMoreArgs]
  | cons a t ih => simp [tokMoreArgs]; omega

theorem tokArgList_length (st : Style) (as : List (Option (List Char) × ArgVal)) :
    as.length ≤ (tokArgList st as).length := by
  cases as with
  | nil => simp
  | cons a t => have := tokMoreArgs_length st t; simp [tokArgList]; omega

/-- what may follow a pattern: the end of the template or the closing brace of the context it is in -/
def StopOk (rest : List Tok) : Prop := rest = [] ∨ ∃ t, rest = .ctxEnd :: t

/-- … or, for the elements of a pattern, the pipe that starts its pipe list -/
def StopOkP (rest : List Tok) : Prop := StopOk rest ∨ ∃ t, rest = .pipe :: t

theorem parsePattern_of_elems (f : Nat) (ts : List Tok) (es : List Elem) (rest : List Tok)
    (h : parseElems f ts = some (es, rest)) (hs : StopOk rest) :
    parsePattern (f + 1) ts = some (Pat.ofList es, rest) := by
  rcases hs with rfl | ⟨t, rfl⟩ <;> simp [parsePattern, h]

def catToks (cat : Option (List Char)) : List Tok := match cat with | some c => [.tagId c, .dot] | none => []
def ctxToks (st : Style) (ctx : Option Pat) : List Tok :=
  match ctx with | some p => .ctxStart :: (tokPat st p ++ [.ctxEnd]) | none => []

theorem tokElem_tag_eq (st : Style) (cat : Option (List Char)) (name : List Char) (args : List ArgVal)
    (kwargs : List (List Char × ArgVal)) (ctx : Option Pat) :
    tokElem st (.tag cat name args kwargs ctx) =
      .tagStart :: (catToks cat ++ .tagId name :: .argsStart :: (tokArgList st (argsOf args kwargs) ++ ctxToks st ctx)) := by
  cases cat <;> cases ctx <;> simp [tokElem, catToks, ctxToks]

theorem tokPat_head (st : Style) (p : Pat) (rest : List Tok) (hs : StopOkP rest) :
    (tokPat st p ++ rest).head? ≠ some .ctxStart := by
  cases p with
  | nil => rcases hs with (rfl | ⟨t, rfl⟩) | ⟨t, rfl⟩ <;> simp [tokPat]
  | cons e p =>
    cases e with
    | raw s => simp [tokPat, tokElem]
    | tag c n a k ctx => simp [tokPat, tokElem_tag_eq]

theorem parseTag_head (f : Nat) (cat : Option (List Char)) (name : List Char) (t : List Tok) :
    parseTag (f + 1) (.tagStart :: (catToks cat ++ .tagId name :: .argsStart :: t)) =
      parseTagBody f cat name (.argsStart :: t) := by
  cases cat <;> rfl

/-- induction over a pattern, element by element, with the context of a tag as a smaller pattern -/
theorem Pat.ind {P : Pat → Prop} (nil : P .nil) (raw : ∀ s q, P q → P (.cons (.raw s) q))
    (tag : ∀ cat name args kwargs ctx q, (∀ p, ctx = some p → P p) → P q → P (.cons (.tag cat name args kwargs ctx) q)) :
    ∀ p, P p
  | .nil => nil
  | .cons (.raw s) q => raw s q (Pat.ind nil raw tag q)
  | .cons (.tag _ _ _ _ none) q => tag _ _ _ _ none q (fun _ h => nomatch h) (Pat.ind nil raw tag q)
  | .cons (.tag _ _ _ _ (some p)) q =>
    tag _ _ _ _ (some p) q (fun _ h => by cases h; exact Pat.ind nil raw tag p) (Pat.ind nil raw tag q)

/-- a tag is read back, given that its context (if it has one) is.  Fuel: every recursive call of the parser comes after
    a token has been consumed, so one unit per token of what is to be read, and one for the stop, is enough -/
theorem parseTag_tok (st : Style) (hst : StyleOk st) (cat : Option (List Char)) (name : List Char)
    (args : List ArgVal) (kwargs : List (List Char × ArgVal)) (ctx : Option Pat)
    (hwf : WFElem (.tag cat name args kwargs ctx))
    (ih : ∀ p, ctx = some p → WFPat p → ∀ (fuel : Nat) (rest : List Tok), StopOkP rest →
      (tokPat st p).length + 1 ≤ fuel → parseElems fuel (tokPat st p ++ rest) = some (p.toList, rest))
    (fuel : Nat) (rest : List Tok) (hr : rest.head? ≠ some .ctxStart)
    (hf : (tokElem st (.tag cat name args kwargs ctx)).length ≤ fuel) :
    parseTag fuel (tokElem st (.tag cat name args kwargs ctx) ++ rest) = some (.tag cat name args kwargs ctx, rest) := by
  unfold WFElem at hwf
  obtain ⟨ha, hk, hnd, hctx⟩ := hwf
  have hl := tokArgList_length st (argsOf args kwargs)
  rw [tokElem_tag_eq] at hf ⊢
  simp only [List.length_cons, List.length_append] at hf
  obtain ⟨f, rfl⟩ := Nat.exists_eq_add_of_le' (show 2 ≤ fuel by omega)
  simp only [List.cons_append, List.append_assoc]
  rw [parseTag_head]
  have hargs := parseArgList_tok st hst (argsOf args kwargs) (argsOf_valok args kwargs ha hk) (f + 1)
    (ctxToks st ctx ++ rest) (by omega)
  simp only [parseTagBody, hargs, splitArgs_argsOf args kwargs hnd]
  cases ctx with
  | none =>
    simp only [ctxToks, List.nil_append]
    split
    · simp at hr
    · rfl
  | some p =>
    simp only [ctxToks, List.length_cons, List.length_append, List.length_nil] at hf
    obtain ⟨g, rfl⟩ := Nat.exists_eq_add_of_le' (show 1 ≤ f by omega)
    have he := ih p rfl hctx g (.ctxEnd :: rest) (Or.inl (Or.inr ⟨rest, rfl⟩)) (by omega)
    simp only [ctxToks, List.cons_append, List.append_assoc, List.nil_append,
      parsePattern_of_elems g _ _ _ he (Or.inr ⟨rest, rfl⟩), ofList_toList]

theorem parseElems_tok (st : Style) (hst : StyleOk st) (p : Pat) : WFPat p → ∀ (fuel : Nat) (rest : List Tok),
    StopOkP rest → (tokPat st p).length + 1 ≤ fuel → parseElems fuel (tokPat st p ++ rest) = some (p.toList, rest) := by
  induction p using Pat.ind with
  | nil =>
    intro _ fuel rest hs hf
    obtain ⟨f, rfl⟩ := Nat.exists_eq_add_of_le' (Nat.le_of_add_left_le hf)
    rcases hs with (rfl | ⟨t, rfl⟩) | ⟨t, rfl⟩ <;> simp [tokPat, parseElems, Pat.toList]
  | raw s q ihq =>
    intro hwf fuel rest hs hf
    simp only [WFPat, WFElem] at hwf
    simp only [tokPat, tokElem, List.length_append, List.length_cons, List.length_nil] at hf
    obtain ⟨f, rfl⟩ := Nat.exists_eq_add_of_le' (Nat.le_of_add_left_le hf)
    simp only [tokPat, tokElem, List.cons_append, List.nil_append, parseElems, ihq hwf.2 f rest hs (by omega),
      Option.map, Pat.toList, unescapeText_escText s]
  | tag cat name args kwargs ctx q ihc ihq =>
    intro hwf fuel rest hs hf
    simp only [WFPat] at hwf
    have hx := tokElem_tag_eq st cat name args kwargs ctx
    simp only [tokPat, List.length_append] at hf
    obtain ⟨f, rfl⟩ := Nat.exists_eq_add_of_le' (Nat.le_of_add_left_le hf)
    have ht := parseTag_tok st hst cat name args kwargs ctx hwf.1 ihc f
      (tokPat st q ++ rest) (tokPat_head st q rest hs) (by omega)
    simp only [tokPat, List.append_assoc]
    rw [hx] at ht ⊢
    simp only [List.cons_append] at ht ⊢
    simp only [parseElems, ht, ihq hwf.2 f rest hs (by rw [hx] at hf; simp at hf; omega), Option.map, Pat.toList]

/-- **printing any template tree and parsing it back yields the same tree** (token level): nesting, categories,
    positional and named arguments, the flag shorthand, every style of writing values.  The parser's own fuel
    (twice the token count) is shown to be enough. -/
theorem parse_print_tokens (st : Style) (hst : StyleOk st) (p : Pat) (hwf : WFPat p) :
    parseTokens (tokPat st p) = some p := by
  have he := parseElems_tok st hst p hwf (2 * (tokPat st p).length + 1) [] (Or.inl (Or.inl rfl)) (by omega)
  have hp := parsePattern_of_elems _ _ _ _ he (Or.inl rfl)
  rw [ofList_toList, List.append_nil] at hp
  simp only [parseTokens, hp]

/-- Non-vacuity: a tree with a category, positional and named arguments, the flag shorthand, nested contexts. -/
def exTree : Pat :=
  .cons (.raw "a{b".toList) (.cons (.tag (some "Core".toList) "Trim".toList [.int (-7), .str "x'y".toList]
    [("left".toList, .bool true), ("w".toList, .int 3)]
    (some (.cons (.tag none "Upper".toList [] [] (some (.cons (.raw "q|".toList) .nil))) (.cons (.raw "z".toList) .nil)))) .nil)

theorem valOk_small (i : Int) (h : i.natAbs < 10) : ValOk (.int i) := by
  intro j hj
  cases hj
  rw [natDigits]
  simp [h, intMaxStrDigits]

theorem valOk_str (s : List Char) : ValOk (.str s) := by intro j hj; cases hj
theorem valOk_bool (b : Bool) : ValOk (.bool b) := by intro j hj; cases hj

theorem exTree_wf : WFPat exTree := by
  have h7 := valOk_small (-7) (by decide)
  have h3 := valOk_small 3 (by decide)
  simp [exTree, WFPat, WFElem, valOk_str, valOk_bool, h7, h3]

example : parseTokens (tokPat { Style.default with shorthand := true } exTree) = some exTree :=
  parse_print_tokens _ ⟨by decide, by decide⟩ exTree exTree_wf

end C10
end Tempren

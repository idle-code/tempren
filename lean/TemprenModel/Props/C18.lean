import TemprenModel.Lemmas.TextLemmas
/-!
# C18 — Text tags are total, file-independent functions with their documented shape

Proved over `List α` (any alphabet) for Trim, Pad, Strip, Collapse, SplitCase; for the tags
backed by a library table (Upper, Unidecode, …) the glue is proved (`map_idempotent`) and the
table's own contract is an assumption the harness checks for every code point.
File-independence holds by construction: no model function takes the file.
-/
namespace Tempren
namespace C18
open List
variable {α : Type}

/-- Trim for either sign of the width: a suffix with `left`, a prefix otherwise, of the length Python's slice has
    (width 0, which `trimConfigure` refuses, goes with the negative ones here: everything is kept) -/
theorem trim_shape (w : Int) (left : Bool) (s : List α) :
    (trim w left s).length = (if 0 < w then min s.length w.toNat else s.length - (-w).toNat) ∧
    (if left then trim w left s <:+ s else trim w left s <+: s) := by
  unfold trim
  cases left <;> by_cases hw : 0 < w <;>
    simp [hw, take_prefix, drop_suffix, Nat.sub_sub_eq_min, Nat.min_comm, Nat.sub_le]

/-- Trim with a positive width: length `min(len, width)`; a suffix with `left`, a prefix otherwise -/
theorem trim_spec (w : Int) (hw : 0 < w) (left : Bool) (s : List α) :
    (trim w left s).length = min s.length w.toNat ∧
    (if left then trim w left s <:+ s else trim w left s <+: s) := by
  have := trim_shape w left s
  rwa [if_pos hw] at this

/-- Trim with a negative width crops `|w|` characters off the chosen side -/
theorem trim_neg_spec (w : Int) (hw : w < 0) (left : Bool) (s : List α) :
    (trim w left s).length = s.length - (-w).toNat ∧
    (if left then trim w left s <:+ s else trim w left s <+: s) := by
  have := trim_shape w left s
  rwa [if_neg (by omega)] at this

theorem centerLeft_le (width len : Nat) : centerLeft width len ≤ width - len := by
  unfold centerLeft; dsimp only; split <;> omega

/-- Pad: length `max(len, width)`; the input is contained unchanged; only the pad character is added -/
theorem pad_spec (width : Nat) (c : α) (left right : Bool) (s : List α) :
    (pad width c left right s).length = max s.length width ∧
    ∃ a b, pad width c left right s = List.replicate a c ++ s ++ List.replicate b c := by
  have hc := centerLeft_le width s.length
  fun_cases pad width c left right s
  · exact ⟨(Nat.max_eq_left ‹_›).symm, 0, 0, by simp⟩
  all_goals have hle := Nat.le_of_not_le ‹¬ width ≤ s.length›
  · exact ⟨by simp only [List.length_append, List.length_replicate]; omega, _, _, rfl⟩
  · exact ⟨by simp [hle], width - s.length, 0, by simp⟩
  · exact ⟨by simp [hle], 0, width - s.length, by simp⟩

/-- Strip: the result is the input minus strippable characters at the chosen end(s);
    nothing strippable is left there -/
theorem strip_spec [BEq α] (chars : List α) (left right : Bool) (s : List α) :
    let p := fun c => chars.contains c
    let r := strip chars left right s
    (∃ pre suf, s = pre ++ r ++ suf ∧ (∀ c ∈ pre, p c = true) ∧ (∀ c ∈ suf, p c = true)) ∧
    ((left ∨ ¬ right) → ∀ c, r.head? = some c → p c = false) ∧
    ((right ∨ ¬ left) → ∀ c, r.getLast? = some c → p c = false) := by
  intro p r
  obtain ⟨pre, h1, h2⟩ := lstripBy_removed p s
  have both : (∃ pre suf, s = pre ++ stripBy p s ++ suf ∧ (∀ c ∈ pre, p c = true) ∧ (∀ c ∈ suf, p c = true)) ∧
      (∀ c, (stripBy p s).head? = some c → p c = false) ∧
      (∀ c, (stripBy p s).getLast? = some c → p c = false) := by
    obtain ⟨suf, h3, h4⟩ := rstripBy_removed p (lstripBy p s)
    refine ⟨⟨pre, suf, ?_, h2, h4⟩, stripBy_head p s, rstripBy_last p _⟩
    unfold stripBy; rw [List.append_assoc, ← h3, ← h1]
  -- with the two flags fixed, `strip` reduces to one of the three functions
  cases left <;> cases right
  · exact ⟨both.1, fun _ => both.2.1, fun _ => both.2.2⟩
  · obtain ⟨suf, h3, h4⟩ := rstripBy_removed p s
    exact ⟨⟨[], suf, h3, by simp, h4⟩, by simp, fun _ => rstripBy_last p s⟩
  · exact ⟨⟨pre, [], by rw [List.append_nil]; exact h1, h2, by simp⟩, fun _ => lstripBy_head p s, by simp⟩
  · exact ⟨both.1, fun _ => both.2.1, fun _ => both.2.2⟩

/-- stripping twice changes nothing more -/
theorem strip_idempotent [BEq α] (chars : List α) (left right : Bool) (s : List α) :
    strip chars left right (strip chars left right s) = strip chars left right s := by
  -- both ends: the second pass finds a non-strippable character at each end
  have both : ∀ p : α → Bool, stripBy p (stripBy p s) = stripBy p s := fun p => by
    rw [stripBy, lstripBy_of_head p _ (stripBy_head p s)]; exact rstripBy_idem p _
  cases left <;> cases right
  · exact both _
  · exact rstripBy_idem _ _
  · exact lstripBy_idem _ _
  · exact both _

/-- Collapse: no two adjacent listed characters remain; every other character survives, in order -/
theorem collapse_spec [BEq α] (cs : List α) (s : List α) :
    noAdjacent (fun c => cs.contains c) (collapse cs s) = true ∧
    (collapse cs s).Sublist s ∧
    (collapse cs s).filter (fun c => !cs.contains c) = s.filter (fun c => !cs.contains c) :=
  ⟨(collapseAux_spec cs false s).1, collapseAux_sublist cs false s, collapseAux_others cs false s⟩

/-- SplitCase only inserts separators: the output is the input cut into pieces and re-joined
    with the separator — whatever the separator contains -/
theorem splitcase_spec (sep s : List Char) :
    ∃ pieces : List (List Char), pieces ≠ [] ∧ pieces.flatten = s ∧ splitCase sep s = joinWith sep pieces := by
  induction s with
  | nil => exact ⟨[[]], by simp, by simp, by simp [splitCase, joinWith]⟩
  | cons c t ih =>
    cases t with
    | nil => exact ⟨[[c]], by simp, by simp, by simp [splitCase, joinWith]⟩
    | cons d u =>
      obtain ⟨pieces, hne, hfl, hsp⟩ := ih
      simp only [splitCase]
      split
      · refine ⟨[c] :: pieces, by simp, by simp [hfl], ?_⟩
        cases pieces with
        | nil => exact absurd rfl hne
        | cons p0 rest => simp [joinWith, hsp]
      · cases pieces with
        | nil => exact absurd rfl hne
        | cons p0 rest =>
          refine ⟨(c :: p0) :: rest, by simp, by simpa using hfl, ?_⟩
          rw [hsp]
          cases rest <;> simp [joinWith]

/-- a context-free character table that is idempotent per character is idempotent on strings
    (Upper and Unidecode: the per-character premise is checked for all code points by the harness) -/
theorem map_idempotent (g : Char → List Char) (h : ∀ c, mapChars g (g c) = g c) (s : List Char) :
    mapChars g (mapChars g s) = mapChars g s := by
  unfold mapChars at h ⊢
  rw [List.flatMap_assoc]
  simp only [h]

/-- and if the table only produces ASCII, so does the tag (Unidecode) -/
theorem map_ascii (g : Char → List Char) (h : ∀ c, ∀ d ∈ g c, d.toNat < 128) (s : List Char) :
    ∀ d ∈ mapChars g s, d.toNat < 128 := by
  intro d hd
  simp only [mapChars, List.mem_flatMap] at hd
  obtain ⟨c, _, hc⟩ := hd
  exact h c d hc

/-- every tag accepts the empty context -/
theorem total_on_empty [BEq α] (w : Int) (left right : Bool) (width : Nat) (c : α) (cs : List α) (sep dflt : List Char)
    (g : Char → List Char) :
    trim w left ([] : List α) = [] ∧ pad width c left right [] = List.replicate width c ∧
    strip cs left right [] = [] ∧ collapse cs ([] : List α) = [] ∧ splitCase sep [] = [] ∧
    defaultTag dflt [] = dflt ∧ mapChars g [] = [] := by
  refine ⟨?_, ?_, ?_, rfl, rfl, by simp [defaultTag], rfl⟩
  · unfold trim; cases left <;> simp
  · -- by `pad_spec`: `a` pad characters, nothing, `b` pad characters, `width` in all
    obtain ⟨hl, a, b, h⟩ := pad_spec width c left right []
    rw [h] at hl ⊢
    simp only [List.append_nil, List.length_append, List.length_replicate, List.length_nil] at hl
    rw [List.append_nil, List.replicate_append_replicate, hl]; simp
  · cases left <;> cases right <;> rfl

/-- Non-vacuity of the shapes on concrete inputs. -/
example : trim 3 true "abcdef".toList = "def".toList ∧ trim (-2) false "abcdef".toList = "abcd".toList ∧
    pad 6 '*' true true "ab".toList = "**ab**".toList ∧ pad 5 '*' true true "ab".toList = "**ab*".toList ∧
    strip " _".toList false false " _a b_ ".toList = "a b".toList ∧
    collapse " -".toList "a - b--c".toList = "a b-c".toList ∧
    splitCase "\\1".toList "fooBarBAZqux".toList = "foo\\1Bar\\1BAZqux".toList := by
  repeat rw [String.toList_ofList]
  decide +kernel

end C18
end Tempren

import TemprenModel.Props.C10Tokens
import TemprenModel.Props.C10Lex
/-!
# C10 — whole trees, on the template text

Every kind of token is followed through the fuel-free lexer of `C10Lex.lean` (`lexAll_text`, `lexAll_id`, `lexAll_word`,
`lexAll_int`, `lexAll_str`), then argument lists, tags and patterns (`lexPat`, by induction over the tree).
`lex_print`: `lex (printPat st p) = some (tokPat st p)`; `parse_print`: `parseTemplate (printPat st p) = some p`.
-/
namespace Tempren
namespace C10

variable {rest : List Char} {ts : List Tok}

/-- a token that is a maximal run `a` of characters of one class, `hstep` being the rule: the run ends where the
    class does -/
theorem lexAll_run {m m' : Mode} {p : Char → Bool} (F : List Char → Tok) {l a : List Char} {c' : Char}
    (hstep : lexStep m l = some (some (F ((a ++ c' :: rest).span p).1), m', ((a ++ c' :: rest).span p).2))
    (ha : a.all p = true) (hc' : p c' = false) (h : lexAll m' (c' :: rest) = some ts) :
    lexAll m l = some (F a :: ts) := by
  rw [span_all ha hc'] at hstep
  exact lexAll_tok hstep h

/-- an identifier `[a-zA-Z_][a-zA-Z0-9_]*` -/
def IdOk (n : List Char) : Prop := ∃ c t, n = c :: t ∧ isIdStart c = true ∧ t.all isIdChar = true

theorem idOk_cons (c : Char) (t : List Char) : IdOk (c :: t) ↔ isIdStart c = true ∧ t.all isIdChar = true :=
  ⟨fun ⟨_, _, e, hc, ht⟩ => by cases e; exact ⟨hc, ht⟩, fun h => ⟨c, t, rfl, h⟩⟩

theorem lexAll_id {n : List Char} (hn : IdOk n) {c' : Char} (hc' : isIdChar c' = false)
    (h : lexAll .T (c' :: rest) = some ts) : lexAll .T (n ++ c' :: rest) = some (.tagId n :: ts) := by
  obtain ⟨c, t, rfl, hc, ht⟩ := hn
  exact lexAll_run .tagId (lexStep_T_id hc _) (by simp [isIdChar_of_start hc, ht]) hc' h

theorem lexAll_word {n : List Char} (hn : IdOk n) {c' : Char} (hc' : isIdChar c' = false)
    (h : lexAll .A (c' :: rest) = some ts) :
    lexAll .A (n ++ c' :: rest) = some ((if n ∈ boolWords then .bool n else .argName n) :: ts) := by
  obtain ⟨c, t, rfl, hc, ht⟩ := hn
  exact lexAll_run (fun s => if s ∈ boolWords then .bool s else .argName s) (lexStep_A_word hc _)
    (by simp [isIdChar_of_start hc, ht]) hc' h

theorem lexAll_int (i : Int) {c' : Char} (hc' : isDigitChar c' = false) (h : lexAll .A (c' :: rest) = some ts) :
    lexAll .A (pyIntStr i ++ c' :: rest) = some (.num (pyIntStr i) :: ts) := by
  obtain ⟨d, r, hdr⟩ := List.exists_cons_of_ne_nil (natDigits_ne_nil i.natAbs)
  have hall := all_digits_natDigits i.natAbs
  rw [hdr, List.all_cons, Bool.and_eq_true] at hall
  unfold pyIntStr
  split <;> rw [hdr]
  · exact lexAll_run (fun s => .num ('-' :: s)) (lexStep_A_neg hall.1 _) (by simp [hall]) hc' h
  · exact lexAll_run .num (lexStep_A_num hall.1 _) (by simp [hall]) hc' h

theorem lexAll_str {q : Char} (hq : q = '\'' ∨ q = '"') {s : List Char} (hlast : s.getLast? ≠ some '\\')
    (h : lexAll .A rest = some ts) : lexAll .A (q :: (escStr q s ++ q :: rest)) = some (.str q (escStr q s) :: ts) := by
  have hqb : q ≠ '\\' := by rcases hq with rfl | rfl <;> decide
  refine lexAll_tok ?_ h
  rw [lexStep_A_str hq, takeString_escStr q hqb s rest hlast]

theorem lexAll_text {s : List Char} (hne : s ≠ []) (hok : TextOk s) (hlast : s.getLast? ≠ some '\\')
    (hX : ∀ c ∈ rest.head?, c = '|' ∨ c = '}' ∨ c = '{' ∨ c = '%') (h : lexAll .D rest = some ts) :
    lexAll .D (escText s ++ rest) = some (.text (escText s) :: ts) := by
  have htake : takeText (escText s ++ rest) = (escText s, rest) := by
    cases rest with
    | nil => rw [List.append_nil]; exact takeTextAux_escText s false hok
    | cons stop t => exact takeTextAux_escText_stop stop (hX stop rfl) t s false hok (fun _ => rfl) hlast
  have hstep := lexStep_D_text (l := escText s ++ rest) (by rw [htake]; exact escText_ne_nil hne)
  rw [htake] at hstep
  exact lexAll_tok hstep h

def printArg (st : Style) (a : Option (List Char) × ArgVal) : List Char :=
  match a.1 with
  | none => printVal st a.2
  | some k => printKw st (k, a.2)

/-- styles the lexer can read: the two spellings of each boolean, the two quote marks -/
def StyleOkL (st : Style) : Prop :=
  (st.trueWord = "true".toList ∨ st.trueWord = "True".toList) ∧
  (st.falseWord = "false".toList ∨ st.falseWord = "False".toList) ∧
  ∀ s, st.quote s = '\'' ∨ st.quote s = '"'

def ValOkL (v : ArgVal) : Prop := ∀ s, v = .str s → s.getLast? ≠ some '\\'

def ArgOkL (a : Option (List Char) × ArgVal) : Prop :=
  ValOkL a.2 ∧ ∀ k, a.1 = some k → IdOk k ∧ k ∉ boolWords

def SepChar (c : Char) : Prop := c = ',' ∨ c = ')'

theorem boolWord_ok {w : List Char} (hw : w ∈ boolWords) : IdOk w := by
  unfold boolWords at hw
  repeat rw [String.toList_ofList] at hw
  simp only [List.mem_cons, List.not_mem_nil, or_false] at hw
  rcases hw with rfl | rfl | rfl | rfl <;> exact ⟨_, _, rfl, by decide, by decide⟩

theorem lexVal (st : Style) (hst : StyleOkL st) (v : ArgVal) (hv : ValOkL v) {c' : Char} (hc : SepChar c')
    (h : lexAll .A (c' :: rest) = some ts) : lexAll .A (printVal st v ++ c' :: rest) = some (tokVal st v :: ts) := by
  have hdig : isDigitChar c' = false := by rcases hc with rfl | rfl <;> decide
  have hid : isIdChar c' = false := by rcases hc with rfl | rfl <;> decide
  cases v with
  | int i => exact lexAll_int i hdig h
  | bool b =>
    have hw : (if b then st.trueWord else st.falseWord) ∈ boolWords := by
      unfold boolWords
      cases b
      · rcases hst.2.1 with h | h <;> simp only [h, List.mem_cons, true_or, or_true, Bool.false_eq_true, if_false]
      · rcases hst.1 with h | h <;> simp only [h, List.mem_cons, true_or, or_true, if_true]
    simpa only [printVal, tokVal, if_pos hw] using lexAll_word (boolWord_ok hw) hid h
  | str s => simpa [printVal, tokVal] using lexAll_str (hst.2.2 s) (hv s rfl) h

theorem lexArg (st : Style) (hst : StyleOkL st) (a : Option (List Char) × ArgVal) (ha : ArgOkL a) {c' : Char}
    (hc : SepChar c') (h : lexAll .A (c' :: rest) = some ts) :
    lexAll .A (printArg st a ++ c' :: rest) = some (tokArg st a ++ ts) := by
  obtain ⟨k, v⟩ := a
  cases k with
  | none => exact lexVal st hst v ha.1 hc h
  | some k =>
    obtain ⟨hk, hnb⟩ := ha.2 k rfl
    have hid : isIdChar c' = false := by rcases hc with rfl | rfl <;> decide
    simp only [printArg, printKw, tokArg]
    split
    · simpa [hnb] using lexAll_word hk hid h
    · simpa [hnb] using
        lexAll_word hk (c' := '=') (by decide) (lexAll_A_eq (lexVal st hst v ha.1 hc h))

/-- the printed argument list behind its opening parenthesis, along the three cases of `joinArgs` -/
theorem lexArgList (st : Style) (hst : StyleOkL st) (h : lexAll .D rest = some ts) :
    ∀ (as : List (Option (List Char) × ArgVal)), (∀ a ∈ as, ArgOkL a) →
      lexAll .A (joinArgs st (as.map (printArg st)) ++ ')' :: rest) = some (tokArgList st as ++ ts)
  | [], _ => lexAll_A_argsEnd h
  | [a], hok => by
    simpa [joinArgs, tokArgList, tokMoreArgs] using
      lexArg st hst a (hok a (by simp)) (.inr rfl) (lexAll_A_argsEnd h)
  | a :: b :: t, hok => by
    have ih := lexArgList st hst h (b :: t) (fun x hx => hok x (by simp [hx]))
    cases hsp : st.space
    · simpa [joinArgs, hsp, tokArgList, tokMoreArgs] using
        lexArg st hst a (hok a (by simp)) (.inl rfl) (lexAll_A_sep ih)
    · simpa [joinArgs, hsp, tokArgList, tokMoreArgs] using
        lexArg st hst a (hok a (by simp)) (.inl rfl) (lexAll_A_sep (lexAll_A_blank ih))

def catStr (cat : Option (List Char)) : List Char := match cat with | some c => c ++ ['.'] | none => []

def NotRawHead : Pat → Prop
  | .cons (.raw _) _ => False
  | _ => True

mutual
  /-- what the printer can write so that the lexer cuts it back into the same pieces -/
  def PrElem : Elem → Prop
    | .raw s => s ≠ [] ∧ C10.TextOk s ∧ s.getLast? ≠ some '\\'
    | .tag cat name args kwargs ctx =>
      (∀ c, cat = some c → IdOk c) ∧ IdOk name ∧ (∀ a ∈ argsOf args kwargs, ArgOkL a) ∧
      (match ctx with | some p => PrPat p | none => True)
  def PrPat : Pat → Prop
    | .nil => True
    | .cons e p => PrElem e ∧ PrPat p ∧
      (match e with
       | .raw _ => NotRawHead p     -- two adjacent texts would be read as one
       | _ => True)
end

/-- what may follow a printed pattern: the end of the template, the brace closing the context it stands in, or the
    pipe that starts its pipe list -/
def StopC (rest : List Char) : Prop := ∀ c ∈ rest.head?, c = '}' ∨ c = '|'

def ctxStr (st : Style) (ctx : Option Pat) : List Char :=
  match ctx with | some p => '{' :: (printPat st p ++ ['}']) | none => []

theorem printElem_tag_eq (st : Style) (cat : Option (List Char)) (name : List Char) (args : List ArgVal)
    (kwargs : List (List Char × ArgVal)) (ctx : Option Pat) :
    printElem st (.tag cat name args kwargs ctx) =
      '%' :: (catStr cat ++ (name ++ '(' :: (joinArgs st ((argsOf args kwargs).map (printArg st)) ++ ')' :: ctxStr st ctx))) := by
  have e : args.map (printVal st) ++ kwargs.map (printKw st) = (argsOf args kwargs).map (printArg st) := by
    simp [argsOf, printArg, List.map_map, Function.comp_def]
  cases cat <;> cases ctx <;> simp [printElem, catStr, ctxStr, e]

/-- a tag is cut into its tokens whatever follows it, given that its context (if it has one) is -/
theorem lexTag (st : Style) (hst : StyleOkL st) (cat : Option (List Char)) (name : List Char) (args : List ArgVal)
    (kwargs : List (List Char × ArgVal)) (ctx : Option Pat) (hpr : PrElem (.tag cat name args kwargs ctx))
    (ih : ∀ p, ctx = some p → PrPat p → ∀ (rest : List Char) (ts : List Tok), StopC rest → lexAll .D rest = some ts →
      lexAll .D (printPat st p ++ rest) = some (tokPat st p ++ ts))
    (h : lexAll .D rest = some ts) :
    lexAll .D (printElem st (.tag cat name args kwargs ctx) ++ rest) =
      some (tokElem st (.tag cat name args kwargs ctx) ++ ts) := by
  unfold PrElem at hpr
  obtain ⟨hcat, hname, hargs, hctx⟩ := hpr
  have hc : lexAll .D (ctxStr st ctx ++ rest) = some (ctxToks st ctx ++ ts) := by
    cases ctx with
    | none => exact h
    | some p =>
      simpa [ctxStr, ctxToks] using
        lexAll_D_ctxStart (ih p rfl hctx _ _ (by simp [StopC]) (lexAll_D_ctxEnd h))
  have hn := lexAll_id hname (c' := '(') (by decide) (lexAll_T_argsStart (lexArgList st hst hc _ hargs))
  rw [printElem_tag_eq, tokElem_tag_eq]
  cases cat with
  | none => simpa [catStr, catToks] using lexAll_D_tagStart hn
  | some c =>
    simpa [catStr, catToks] using
      lexAll_D_tagStart (lexAll_id (hcat c rfl) (c' := '.') (by decide) (lexAll_T_dot hn))

theorem printPat_follow (st : Style) (q : Pat) (hq : NotRawHead q) (rest : List Char) (hs : StopC rest) :
    ∀ c ∈ (printPat st q ++ rest).head?, c = '|' ∨ c = '}' ∨ c = '{' ∨ c = '%' := by
  cases q with
  | nil =>
    intro c hc
    rcases hs c hc with h | h <;> simp [h]
  | cons e q' =>
    cases e with
    | raw s => exact absurd hq (by simp [NotRawHead])
    | tag cat name args kwargs ctx =>
      rw [printPat, printElem_tag_eq]
      simp

theorem lexPat (st : Style) (hst : StyleOkL st) (p : Pat) : PrPat p → ∀ (rest : List Char) (ts : List Tok),
    StopC rest → lexAll .D rest = some ts → lexAll .D (printPat st p ++ rest) = some (tokPat st p ++ ts) := by
  induction p using Pat.ind with
  | nil => exact fun _ _ _ _ h => h
  | raw s q ihq =>
    intro hp rest ts hs h
    simp only [PrPat, PrElem] at hp
    obtain ⟨⟨hne, hok, hlast⟩, hq, hnr⟩ := hp
    simpa [printPat, printElem, tokPat, tokElem] using
      lexAll_text hne hok hlast (printPat_follow st q hnr rest hs) (ihq hq rest ts hs h)
  | tag cat name args kwargs ctx q ihc ihq =>
    intro hp rest ts hs h
    unfold PrPat at hp
    simpa [printPat, tokPat] using
      lexTag st hst cat name args kwargs ctx hp.1 ihc (ihq hp.2.1 rest ts hs h)

/-- the lexer cuts a printed tree into exactly the printer's tokens -/
theorem lex_print (st : Style) (hst : StyleOkL st) (p : Pat) (hp : PrPat p) :
    lex (printPat st p) = some (tokPat st p) := by
  simpa [lex_eq_lexAll] using lexPat st hst p hp [] [] (by simp [StopC]) (lexAll_nil .D)

theorem styleOk_of_L (st : Style) (h : StyleOkL st) : StyleOk st := by
  obtain ⟨ht, hf, _⟩ := h
  obtain ⟨h1, h2, h3, h4⟩ := boolValue_words
  constructor
  · rcases ht with e | e <;> rw [e]
    · exact h1
    · exact h2
  · rcases hf with e | e <;> rw [e]
    · exact h3
    · exact h4

/-- **C10, the tree round trip, on the template text itself**: printing any template tree — raw text with the
    documented escapes, nested contexts, categories, positional and named arguments, the flag shorthand, either
    quote mark, either spelling of the booleans, with or without a blank after the comma — and parsing the text back
    through the three-mode lexer and the parser yields the same tree.
    `PrPat`: texts are non-empty, free of `%`/TAB/LF/CR, do not end in a backslash and no two of them are adjacent;
    names are identifiers (argument names not `true`/`false`); strings do not end in a backslash.
    `WFPat`: integers within CPython's digit limit (K4), argument names used once. -/
theorem parse_print (st : Style) (hst : StyleOkL st) (p : Pat) (hpr : PrPat p) (hwf : WFPat p) :
    parseTemplate (printPat st p) = some p := by
  unfold parseTemplate
  rw [lex_print st hst p hpr]
  exact parse_print_tokens st (styleOk_of_L st hst) p hwf

/-! ### single texts and arguments: instances of `lex_print` and `parse_print` -/

theorem styleOkL_quote (q : Char) (hq : q = '\'' ∨ q = '"') : StyleOkL { Style.default with quote := fun _ => q } :=
  ⟨Or.inr rfl, Or.inr rfl, fun _ => hq⟩

theorem oneArg_ok (v : ArgVal) (hl : ValOkL v) (hv : ValOk v) :
    PrPat (.cons (.tag none "T".toList [v] [] none) .nil) ∧ WFPat (.cons (.tag none "T".toList [v] [] none) .nil) := by
  have hid : IdOk ['T'] := ⟨'T', [], rfl, by decide, rfl⟩
  simp [PrPat, PrElem, WFPat, WFElem, argsOf, ArgOkL, hid, hl, hv]

/-- **raw text, end to end**: any non-empty text without `%` and without TAB/LF/CR that does not end in a
    backslash, written with the documented escapes, is lexed as one TEXT token and parsed back to exactly
    that text — through the model of the whole front end (three-mode lexer, parser), not only `unescape` -/
theorem parse_print_text (s : List Char) (hne : s ≠ []) (hok : TextOk s) (hlast : s.getLast? ≠ some '\\') :
    lex (escText s) = some [.text (escText s)] ∧ parseTemplate (escText s) = some (.cons (.raw s) .nil) := by
  have hst := styleOkL_quote '"' (Or.inr rfl)
  have hpr : PrPat (.cons (.raw s) .nil) := by simp [PrPat, PrElem, NotRawHead, hne, hok, hlast]
  have hl := lex_print _ hst _ hpr
  have hp := parse_print _ hst _ hpr (by simp [WFPat, WFElem, hlast])
  simpa [printPat, printElem, tokPat, tokElem] using And.intro hl hp

/-- **a string argument, end to end**: `%T("…")` with any string that does not end in a backslash, written
    with the documented escapes and either quote mark, is lexed and parsed back to a tag with exactly that
    string as its only argument — through the model of the whole front end -/
theorem parse_print_string_arg (q : Char) (hq : q = '\'' ∨ q = '"') (s : List Char)
    (hlast : s.getLast? ≠ some '\\') :
    parseTemplate ("%T(".toList ++ q :: escStr q s ++ [q, ')']) =
      some (.cons (.tag none "T".toList [.str s] [] none) .nil) := by
  obtain ⟨hpr, hwf⟩ := oneArg_ok (.str s) (by intro _ e; cases e; exact hlast) (valOk_str s)
  have hp := parse_print _ (styleOkL_quote q hq) _ hpr hwf
  simpa [printPat, printElem, joinArgs, printVal] using hp

/-- **a non-negative integer argument, end to end**: `%T(<decimal digits of n>)` is lexed and parsed back to a tag
    with exactly the integer `n` as its only argument, for every `n` below CPython's conversion limit -/
theorem parse_print_nat_arg (n : Nat) (h : (natDigits n).length ≤ intMaxStrDigits) :
    parseTemplate ("%T(".toList ++ natDigits n ++ [')']) =
      some (.cons (.tag none "T".toList [.int (n : Int)] [] none) .nil) := by
  obtain ⟨hpr, hwf⟩ := oneArg_ok (.int n) (by intro _ e; cases e) (by intro _ e; cases e; simpa using h)
  have hp := parse_print _ (styleOkL_quote '"' (Or.inr rfl)) _ hpr hwf
  have hneg : ¬ ((n : Int) < 0) := by omega
  simpa [printPat, printElem, joinArgs, printVal, pyIntStr, hneg] using hp

theorem exTree_pr : PrPat exTree := by
  unfold exTree
  repeat rw [String.toList_ofList]
  simp only [PrPat, PrElem, NotRawHead, argsOf, ArgOkL, ValOkL, idOk_cons, TextOk, List.map_cons, List.map_nil,
    List.cons_append, List.nil_append, List.mem_cons, List.not_mem_nil, or_false, forall_eq_or_imp, forall_eq,
    Option.some.injEq, forall_eq', reduceCtorEq, false_imp_iff, implies_true, ArgVal.str.injEq]
  decide +kernel

/-- Non-vacuity: the example tree (category, negative integer, a string with a quote in it, the flag shorthand, a named
    integer, two levels of context, escaped `{` and `|`) meets every hypothesis, in a style with single quotes,
    lower-case booleans, shorthand and no blank after commas -/
def exStyle : Style :=
  { quote := fun _ => '\'', trueWord := "true".toList, falseWord := "false".toList, shorthand := true, space := false }

example : parseTemplate (printPat exStyle exTree) = some exTree :=
  parse_print _ ⟨Or.inl rfl, Or.inl rfl, fun _ => Or.inl rfl⟩ exTree exTree_pr exTree_wf

end C10
end Tempren

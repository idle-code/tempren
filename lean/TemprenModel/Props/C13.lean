import TemprenModel.Model.Bind
/-!
# C13 — Built-in help tells the truth about every tag's context and arguments

The signature `--help` prints is `inspect.signature(configure)` plus a context marker derived
from `require_context`; the harness parses it into a `Sig` for every tag of the live
registry.  The theorems state, for every signature, what a call may do.
-/
namespace Tempren
namespace C13

/-- **context marker ⇔ behaviour**: `{...}` is rejected without a context, no marker is rejected
    with one, `[{...}]` accepts both -/
theorem context_rule (s : Sig) (hasContext : Bool) :
    (contextMarker s = "{...}".toList → (contextRule s hasContext = .ok ↔ hasContext = true)) ∧
    (contextMarker s = [] → (contextRule s hasContext = .ok ↔ hasContext = false)) ∧
    (contextMarker s = "[{...}]".toList → contextRule s hasContext = .ok) := by
  unfold contextMarker contextRule
  repeat rw [String.toList_ofList]
  cases s.requireContext with
  | none => cases hasContext <;> decide
  | some b => cases b <;> cases hasContext <;> decide

/-- **exact characterisation**: a call binds iff there are not too many positional arguments, every
    name is declared, none is also given positionally, and every required parameter is supplied -/
theorem bind_ok_iff (s : Sig) (nargs : Nat) (kws : List (List Char)) :
    bindCall s nargs kws = .ok ↔
      (nargs ≤ s.positional.length ∨ s.hasVarPos = true) ∧
      (∀ k ∈ kws, k ∈ s.nameable) ∧
      (∀ k ∈ kws, k ∉ (s.positional.take nargs).map (·.name)) ∧
      (∀ p ∈ s.params, p.kind ≠ .varPos → p.hasDefault = false →
        p.name ∈ (s.positional.take nargs).map (·.name) ∨ p.name ∈ kws) := by
  -- `ok` is what is left when the arity test and the three searches for an offender all fail
  have hok : bindCall s nargs kws = .ok ↔
      ¬ (s.positional.length < nargs ∧ s.hasVarPos = false) ∧
      kws.find? (fun k => k ∉ s.nameable) = none ∧
      kws.find? (fun k => k ∈ (s.positional.take nargs).map (·.name)) = none ∧
      s.params.find? (fun p => p.kind ≠ .varPos ∧ p.hasDefault = false ∧
        p.name ∉ (s.positional.take nargs).map (·.name) ∧ p.name ∉ kws) = none := by
    fun_cases bindCall s nargs kws
    · exact ⟨nofun, fun h => absurd ‹_› h.1⟩
    · rename_i h2; exact ⟨nofun, fun h => nomatch h2.symm.trans h.2.1⟩
    · rename_i h3; exact ⟨nofun, fun h => nomatch h3.symm.trans h.2.2.1⟩
    · rename_i h4; exact ⟨nofun, fun h => nomatch h4.symm.trans h.2.2.2⟩
    · exact ⟨fun _ => ⟨‹_›, ‹_›, ‹_›, ‹_›⟩, fun _ => rfl⟩
  rw [hok, List.find?_eq_none, List.find?_eq_none, List.find?_eq_none]
  refine and_congr ?_ (and_congr ?_ (and_congr ?_ ?_))
  · cases s.hasVarPos <;> simp
  · simp only [decide_eq_true_eq, Decidable.not_not]
  · simp only [decide_eq_true_eq]
  · simp only [decide_eq_true_eq, not_and, Decidable.not_not, Decidable.or_iff_not_imp_left]

/-- an undeclared name is always rejected, whatever else is passed -/
theorem bind_rejects_unknown (s : Sig) (nargs : Nat) (kws : List (List Char)) (k : List Char)
    (hk : k ∈ kws) (hun : k ∉ s.nameable) : bindCall s nargs kws ≠ .ok :=
  fun h => hun (((bind_ok_iff s nargs kws).mp h).2.1 k hk)

/-- more positional arguments than positional parameters (and no `*args`) is rejected -/
theorem bind_rejects_too_many (s : Sig) (nargs : Nat) (kws : List (List Char))
    (h : s.positional.length < nargs) (hv : s.hasVarPos = false) : bindCall s nargs kws = .tooMany := by
  unfold bindCall; simp [h, hv]

/-- a required parameter that is neither reached positionally nor named is rejected -/
theorem bind_rejects_missing (s : Sig) (nargs : Nat) (kws : List (List Char)) (p : Param)
    (hp : p ∈ s.params) (hk : p.kind ≠ .varPos) (hd : p.hasDefault = false)
    (hpos : p.name ∉ (s.positional.take nargs).map (·.name)) (hkw : p.name ∉ kws) :
    bindCall s nargs kws ≠ .ok :=
  fun h => (((bind_ok_iff s nargs kws).mp h).2.2.2 p hp hk hd).elim hpos hkw

/-- the same name given positionally and by name is rejected -/
theorem bind_rejects_double (s : Sig) (nargs : Nat) (kws : List (List Char)) (k : List Char)
    (hk : k ∈ kws) (hf : k ∈ (s.positional.take nargs).map (·.name)) : bindCall s nargs kws ≠ .ok :=
  fun h => ((bind_ok_iff s nargs kws).mp h).2.2.1 k hk hf

/-- every documented parameter may be passed by name: naming them all (each once) binds -/
theorem bind_all_named (s : Sig) : bindCall s 0 s.nameable = .ok := by
  rw [bind_ok_iff]
  refine ⟨Or.inl (Nat.zero_le _), fun k hk => hk, by simp, ?_⟩
  intro p hp hk _
  right
  unfold Sig.nameable
  exact List.mem_map.mpr ⟨p, List.mem_filter.mpr ⟨hp, by simpa using hk⟩, rfl⟩

/-- positional and named passing are interchangeable: passing the first `n` positional parameters by
    position and the listed names `kws` is accepted iff passing those same `n` by name instead is —
    provided the names are distinct from the first `n` (no double assignment) -/
theorem bind_named_eq_positional (s : Sig) (n : Nat) (kws : List (List Char)) (hn : n ≤ s.positional.length)
    (hdis : ∀ k ∈ kws, k ∉ (s.positional.take n).map (·.name)) :
    bindCall s n kws = .ok ↔ bindCall s 0 ((s.positional.take n).map (·.name) ++ kws) = .ok := by
  rw [bind_ok_iff, bind_ok_iff]
  have hnameable : ∀ k ∈ (s.positional.take n).map (·.name), k ∈ s.nameable := by
    intro k hk
    obtain ⟨p, hp, rfl⟩ := List.mem_map.mp hk
    obtain ⟨hp1, hp2⟩ := List.mem_filter.mp (List.mem_of_mem_take hp)
    exact List.mem_map.mpr ⟨p, List.mem_filter.mpr ⟨hp1, by simp [of_decide_eq_true hp2]⟩, rfl⟩
  -- called with no positional argument the first and third condition are trivial; `hn` and `hdis` are the other two
  simp only [List.take_zero, List.map_nil, List.not_mem_nil, not_false_eq_true, implies_true, false_or, Nat.zero_le,
    true_or, true_and, List.mem_append]
  exact ⟨fun ⟨_, h2, _, h4⟩ => ⟨fun k hk => hk.elim (hnameable k) (h2 k), h4⟩,
    fun ⟨h2, h4⟩ => ⟨.inl hn, fun k hk => h2 k (.inr hk), hdis, h4⟩⟩

/-- Non-vacuity: `Trim(width, left=False, right=False){...}` and `Remove(*patterns, ignore_case=False){...}`. -/
example :
    let trim : Sig := ⟨[⟨"width".toList, .posOrKw, false⟩, ⟨"left".toList, .posOrKw, true⟩,
                        ⟨"right".toList, .posOrKw, true⟩], some true⟩
    let remove : Sig := ⟨[⟨"patterns".toList, .varPos, true⟩, ⟨"ignore_case".toList, .kwOnly, true⟩], some true⟩
    accepted trim 1 ["left".toList] true = true ∧ accepted trim 1 ["left".toList] false = false ∧
    accepted trim 0 ["left".toList] true = false ∧ accepted trim 4 [] true = false ∧
    accepted trim 1 ["width".toList] true = false ∧ accepted trim 1 ["up".toList] true = false ∧
    accepted remove 5 ["ignore_case".toList] true = true ∧ accepted remove 0 ["patterns".toList] true = false := by
  repeat rw [String.toList_ofList]
  decide +kernel

end C13
end Tempren

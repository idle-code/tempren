import TemprenModel.Props.C08
import TemprenModel.Lemmas.FSLemmas
/-!
# C08 (directory mode) — why deeper directories go first

In directory mode every selected directory `q` is renamed in place to `parent(q)/n`.  Renaming a directory re-keys its whole
subtree, so the path under which a descendant was gathered stops denoting it.  `depth_order_keeps_sources`: if the moves are
carried out in an order in which no move is deeper than an earlier one (what `PathDepthSorter` produces: `C08.depth_sorter`)
and the sources are pairwise different, then **when a directory's turn comes, its gathered path still denotes the very entry
it denoted in the initial tree** — whatever renames (successful, refused, failed) came before.  `ancestor_first_breaks` is
the witness that the order matters: renaming `d` before `d/e` makes the gathered path `d/e` dangle.
-/
namespace Tempren
namespace C08

/-- one directory-mode step on the abstract tree: rename `q` to `parent(q)/n` unless that path is taken (a conflict: the
    renamer refuses) or is `q` itself; a failing `rename(2)` leaves the tree as it is -/
def dirMoveStep (fs : FS) (m : APath × Name) : FS :=
  if fs.find (m.1.dropLast ++ [m.2]) = none ∧ m.1 ≠ m.1.dropLast ++ [m.2] then
    (match renameAbs fs m.1 (m.1.dropLast ++ [m.2]) with
     | .ok fs' => fs'
     | .error _ => fs)
  else fs

/-- renaming `q` onto the free path `b` (as long as `q`) does not disturb what a path `q'` that is no deeper than `q`
    and different from it denotes -/
theorem find_after_rename (fs fs' : FS) (q b q' : APath) (e : Entry)
    (h : renameAbs fs q b = .ok fs') (hb : fs.find b = none) (hqb : q ≠ b)
    (hlen : b.length = q.length) (hdepth : q'.length ≤ q.length) (hne : q ≠ q')
    (hfind : fs.find q' = some e) : fs'.find q' = some e := by
  rw [renameAbs_fresh h hb hqb, ← hfind]
  -- `q'` is too short to lie below `q` or `b` and is neither of them
  refine find_map_rekey (fun hp => hne (hp.eq_of_length_le hdepth)) fun hp => ?_
  rw [← hp.eq_of_length_le (hlen ▸ hdepth), hb] at hfind
  cases hfind

theorem dirMoveStep_keeps (fs : FS) (m : APath × Name) (q' : APath) (e : Entry) (hm : m.1 ≠ [])
    (hdepth : q'.length ≤ m.1.length) (hne : m.1 ≠ q') (hfind : fs.find q' = some e) :
    (dirMoveStep fs m).find q' = some e := by
  unfold dirMoveStep
  split
  · rename_i hc
    cases hr : renameAbs fs m.1 (m.1.dropLast ++ [m.2]) with
    | error _ => simpa using hfind
    | ok fs' =>
      simp only
      exact find_after_rename fs fs' m.1 _ q' e hr hc.1 hc.2 (length_dropLast_snoc m.1 m.2 hm) hdepth hne hfind
  · exact hfind

/-- **Deeper first keeps every gathered path valid.**  For any list of directory moves in which no move is deeper than an
    earlier one and whose sources are pairwise different: when the turn of `q` comes, after all the moves before it have
    been attempted, `q` still denotes exactly the entry it denoted initially. -/
theorem depth_order_keeps_sources (fs : FS) (ms pre post : List (APath × Name)) (q : APath) (n : Name) (e : Entry)
    (hsplit : ms = pre ++ (q, n) :: post)
    (hsorted : ms.Pairwise (fun a b => b.1.length ≤ a.1.length))
    (hdistinct : ms.Pairwise (fun a b => a.1 ≠ b.1))
    (hsrc : ∀ m ∈ ms, m.1 ≠ [])
    (hfind : fs.find q = some e) :
    (pre.foldl dirMoveStep fs).find q = some e := by
  subst hsplit
  induction pre generalizing fs with
  | nil => simpa using hfind
  | cons m pre ih =>
    simp only [List.cons_append, List.pairwise_cons] at hsorted hdistinct
    simp only [List.foldl_cons]
    have hq : (q, n) ∈ pre ++ (q, n) :: post := by simp
    exact ih _ (dirMoveStep_keeps fs m q e (hsrc m (by simp)) (hsorted.1 _ hq) (hdistinct.1 _ hq) hfind)
      hsorted.2 hdistinct.2 (fun x hx => hsrc x (by simp [hx]))

/-- the order `PathDepthSorter` produces has the required shape (`C08.depth_sorter`) -/
theorem depthSorted_shape (l : List (APath × Name)) :
    (depthSorted (fun m : APath × Name => m.1.length) l).Pairwise (fun a b => b.1.length ≤ a.1.length) :=
  (depth_sorter (fun m : APath × Name => m.1.length) l).2

/-- **the order matters** for `depth_order_keeps_sources`: renaming the ancestor `d` first makes the gathered path `d/e` dangle -/
theorem ancestor_first_breaks :
    let fs : FS := [⟨["d".toList], 1, .dir, 0⟩, ⟨["d".toList, "e".toList], 2, .dir, 0⟩]
    (dirMoveStep fs (["d".toList], "x".toList)).find ["d".toList, "e".toList] = none ∧
    (dirMoveStep fs (["d".toList, "e".toList], "y".toList)).find ["d".toList] = some ⟨["d".toList], 1, .dir, 0⟩ := by
  decide

end C08
end Tempren

import TemprenModel.Lemmas.RegistryLemmas
import TemprenModel.Lemmas.OrderLemmas
/-!
# C12 — Tag names resolve deterministically and never to the wrong tag
-/
namespace Tempren
namespace C12

/-- the categories (as registered) that define a tag called `name` -/
def catsWith (r : Reg) (name : List Char) : List (List Char) :=
  (r.filter (fun c => name ∈ c.2)).map (·.1)

theorem mem_catsWith {r : Reg} {name c : List Char} : c ∈ catsWith r name ↔ ∃ tags, (c, tags) ∈ r ∧ name ∈ tags := by
  simp only [catsWith, List.mem_map, List.mem_filter, decide_eq_true_eq]
  constructor
  · rintro ⟨⟨cn, tags⟩, ⟨hm, ht⟩, rfl⟩; exact ⟨tags, hm, ht⟩
  · rintro ⟨tags, hm, ht⟩; exact ⟨(c, tags), ⟨hm, ht⟩, rfl⟩

theorem lookupTag_bare (r : Reg) (name : List Char) :
    lookupTag r none name =
      match catsWith r name with
      | [] => .unknownName
      | [c] => .found c name
      | cs => .ambiguous (sortStrs cs) := rfl

theorem lookupTag_bare_iff (r : Reg) (name : List Char) (res : Lookup) :
    lookupTag r none name = res ↔
      match res with
      | .unknownName => catsWith r name = []
      | .found c t => catsWith r name = [c] ∧ name = t
      | .ambiguous cs => 2 ≤ (catsWith r name).length ∧ sortStrs (catsWith r name) = cs
      | .unknownCategory => False := by
  rw [lookupTag_bare]
  match catsWith r name with
  | [] => cases res <;> simp
  | [c] => cases res <;> simp
  | _ :: _ :: _ => cases res <;> simp

theorem lookupTag_qualified (r : Reg) (q name : List Char) :
    lookupTag r (some q) name =
      match findCategory r q with
      | none => .unknownCategory
      | some (cn, tags) => if name ∈ tags then .found cn name else .unknownName := rfl

/-- `Category.Tag` resolves with the category written in any letter case -/
theorem qualified_any_case (r : Reg) (hwf : RegWF r) (cn : List Char) (tags : List (List Char))
    (hc : (cn, tags) ∈ r) (name : List Char) (hn : name ∈ tags) (q : List Char)
    (hq : asciiLower q = asciiLower cn) : lookupTag r (some q) name = .found cn name := by
  rw [lookupTag_qualified, findCategory_of_match r hwf (cn, tags) hc q hq]
  exact if_pos hn

/-- an unknown category is reported as such — exactly when no category matches -/
theorem unknown_category_iff (r : Reg) (q name : List Char) :
    lookupTag r (some q) name = .unknownCategory ↔ ∀ c ∈ r, asciiLower c.1 ≠ asciiLower q := by
  rw [← findCategory_none_iff, lookupTag_qualified]
  cases findCategory r q with
  | none => simp
  | some c => dsimp only; split <;> simp

/-- a known category without that tag: unknown *name* -/
theorem qualified_unknown_name (r : Reg) (hwf : RegWF r) (cn : List Char) (tags : List (List Char))
    (hc : (cn, tags) ∈ r) (name : List Char) (hn : name ∉ tags) (q : List Char)
    (hq : asciiLower q = asciiLower cn) : lookupTag r (some q) name = .unknownName := by
  rw [lookupTag_qualified, findCategory_of_match r hwf (cn, tags) hc q hq]
  exact if_neg hn

/-- whatever is found is a registered tag of exactly that spelling (tag names are case-sensitive)
    in a category that matches the query -/
theorem found_is_registered (r : Reg) (cat : Option (List Char)) (name c t : List Char)
    (h : lookupTag r cat name = .found c t) :
    t = name ∧ (∃ tags, (c, tags) ∈ r ∧ name ∈ tags) ∧
    (∀ q, cat = some q → asciiLower c = asciiLower q) := by
  cases cat with
  | some q =>
    rw [lookupTag_qualified] at h
    cases hf : findCategory r q with
    | none => rw [hf] at h; cases h
    | some d =>
      obtain ⟨cn, tags⟩ := d
      obtain ⟨hm, hl⟩ := findCategory_some_mem r q _ hf
      rw [hf] at h
      dsimp only at h
      split at h
      · rename_i hn
        obtain ⟨rfl, rfl⟩ := Lookup.found.inj h
        exact ⟨rfl, ⟨tags, hm, hn⟩, fun q' e => by cases e; exact hl⟩
      · cases h
  | none =>
    obtain ⟨hcs, rfl⟩ := (lookupTag_bare_iff r name _).mp h
    exact ⟨rfl, mem_catsWith.mp (by rw [hcs]; simp), fun q e => by cases e⟩

/-- a bare name resolves exactly when it occurs in one category -/
theorem bare_iff_unique (r : Reg) (name c : List Char) :
    lookupTag r none name = .found c name ↔ catsWith r name = [c] :=
  (lookupTag_bare_iff r name _).trans (and_iff_left rfl)

/-- a bare name that occurs nowhere: unknown name -/
theorem bare_unknown_iff (r : Reg) (name : List Char) :
    lookupTag r none name = .unknownName ↔ ∀ c ∈ r, name ∉ c.2 := by
  have hnil : catsWith r name = [] ↔ ∀ c ∈ r, name ∉ c.2 := by
    rw [List.eq_nil_iff_forall_not_mem]
    constructor
    · intro h c hc hn; exact h c.1 (mem_catsWith.mpr ⟨c.2, hc, hn⟩)
    · intro h c hc; obtain ⟨tags, hm, ht⟩ := mem_catsWith.mp hc; exact h _ hm ht
  exact (lookupTag_bare_iff r name _).trans hnil

/-- a bare name present in several categories is rejected, naming **all** of them, sorted -/
theorem ambiguous_lists_all (r : Reg) (name : List Char) (h : 2 ≤ (catsWith r name).length) :
    ∃ cs, lookupTag r none name = .ambiguous cs ∧
      (∀ c, c ∈ cs ↔ ∃ tags, (c, tags) ∈ r ∧ name ∈ tags) ∧
      cs.Pairwise (fun a b => strLe a b = true) ∧ cs.length = (catsWith r name).length :=
  ⟨sortStrs (catsWith r name), (lookupTag_bare_iff r name _).mpr ⟨h, rfl⟩,
    fun c => mem_sortStrs.trans mem_catsWith, sortStrs_sorted _, by simp [sortStrs]⟩

/-- and conversely an ambiguity is only ever reported for a name in several categories -/
theorem ambiguous_only_if_several (r : Reg) (cat : Option (List Char)) (name : List Char)
    (cs : List (List Char)) (h : lookupTag r cat name = .ambiguous cs) :
    cat = none ∧ 2 ≤ (catsWith r name).length := by
  cases cat with
  | some q =>
    rw [lookupTag_qualified] at h
    split at h
    · cases h
    · split at h <;> cases h
  | none => exact ⟨rfl, ((lookupTag_bare_iff r name _).mp h).1⟩

/-- **resolution never depends on registration order** -/
theorem lookup_perm_invariant (r r' : Reg) (hwf : RegWF r) (p : r.Perm r')
    (cat : Option (List Char)) (name : List Char) : lookupTag r cat name = lookupTag r' cat name := by
  cases cat with
  | some q =>
    have hf : findCategory r q = findCategory r' q := by
      cases h : findCategory r q with
      | none =>
        symm
        rw [findCategory_none_iff] at h ⊢
        intro c hc; exact h c (p.symm.subset hc)
      | some c =>
        have := findCategory_some_mem r q c h
        exact (findCategory_of_match r' (hwf.perm p) c (p.subset this.1) q this.2.symm).symm
    rw [lookupTag_qualified, lookupTag_qualified, hf]
  | none =>
    have pc : (catsWith r name).Perm (catsWith r' name) := (p.filter _).map _
    rw [lookupTag_bare, lookupTag_bare]
    -- a permutation of no or one category is the same list; of several, it has the same sorted form
    match hl : catsWith r name with
    | [] => rw [hl] at pc; rw [List.nil_perm.mp pc]
    | [c] => rw [hl] at pc; rw [List.singleton_perm.mp pc]
    | a :: b :: t =>
      rw [hl] at pc
      match hl' : catsWith r' name with
      | [] => rw [hl'] at pc; cases pc.length_eq
      | [_] => rw [hl'] at pc; cases pc.length_eq
      | _ :: _ :: _ => rw [hl'] at pc; exact congrArg _ (sortStrs_perm pc)

/-- the error points at the offending part: the category for an unknown category,
    the name (after `Category.`) for an unknown name -/
theorem error_located (cat : Option (List Char)) (name : List Char) (col : Nat) :
    errorSpan cat name col .unknownName = (col + (match cat with | some c => c.length + 1 | none => 0), name.length) ∧
    (∀ c, errorSpan (some c) name col .unknownCategory = (col, c.length)) := by
  cases cat <;> simp [errorSpan] <;> omega

/-- Non-vacuity: a registry with a shadowed name, mixed-case categories. -/
example :
    let r : Reg := [("core".toList, ["Name".toList, "Size".toList]), ("AdHoc".toList, ["Size".toList]),
                    ("Alias".toList, ["N".toList])]
    RegWF r ∧ lookupTag r (some "ADHOC".toList) "Size".toList = .found "AdHoc".toList "Size".toList ∧
    2 ≤ (catsWith r "Size".toList).length ∧
    lookupTag r none "Name".toList = .found "core".toList "Name".toList ∧
    lookupTag r (some "core".toList) "name".toList = .unknownName := by
  repeat rw [String.toList_ofList]
  unfold RegWF
  decide +kernel

end C12
end Tempren

import TemprenModel.Extracted
/-!
# C09/C10/C11 — the front end that runs is the front end that was modelled

`Model/Template.lean` is a hand-written model of `TagTemplateLexer.g4` / `TagTemplateParser.g4`; the code that runs is the
recogniser ANTLR generated from them (`TagTemplateLexer.py`, `TagTemplateParser.py`: a serialised automaton).  `harness/extract.py`
copies the serialised automata and the rule/mode name tables of the generated recognisers from /repo into `Extracted.lean` on
every run; the theorems below say that they are, number for number, the ones the model was written against and validated
against by the correspondence streams.  Any regeneration of a recogniser from a changed grammar breaks one of them:
the check then searches for a template on which the property fails (GENERATED by tools/pin_grammar.py — not edited by hand).
-/
namespace Tempren
namespace C10

def Pinned_lexerATN : Prop := Extracted.lexerATN = [
  4, 0, 19, 164, 6, -1, 6, -1, 6, -1, 2, 0, 7, 0, 2, 1, 7, 1, 2, 2, 7, 2, 2, 3,
  7, 3, 2, 4, 7, 4, 2, 5, 7, 5, 2, 6, 7, 6, 2, 7, 7, 7, 2, 8, 7, 8, 2, 9,
  7, 9, 2, 10, 7, 10, 2, 11, 7, 11, 2, 12, 7, 12, 2, 13, 7, 13, 2, 14, 7, 14, 2, 15,
  7, 15, 2, 16, 7, 16, 2, 17, 7, 17, 2, 18, 7, 18, 2, 19, 7, 19, 2, 20, 7, 20, 2, 21,
  7, 21, 2, 22, 7, 22, 1, 0, 1, 0, 3, 0, 52, 8, 0, 1, 0, 1, 0, 1, 0, 5, 0, 57,
  8, 0, 10, 0, 12, 0, 60, 9, 0, 1, 1, 1, 1, 1, 2, 1, 2, 1, 3, 1, 3, 1, 3, 1,
  3, 1, 4, 1, 4, 1, 4, 1, 4, 1, 5, 1, 5, 1, 6, 1, 6, 1, 6, 1, 6, 1, 6, 1,
  6, 1, 6, 4, 6, 83, 8, 6, 11, 6, 12, 6, 84, 1, 7, 1, 7, 1, 8, 1, 8, 1, 9, 1,
  9, 1, 10, 1, 10, 1, 10, 1, 10, 1, 11, 1, 11, 1, 11, 1, 11, 1, 12, 1, 12, 1, 12, 1,
  12, 1, 12, 1, 13, 1, 13, 1, 14, 1, 14, 1, 15, 1, 15, 1, 15, 1, 15, 1, 16, 1, 16, 1,
  16, 1, 16, 1, 17, 1, 17, 1, 18, 3, 18, 121, 8, 18, 1, 18, 4, 18, 124, 8, 18, 11, 18, 12,
  18, 125, 1, 19, 1, 19, 1, 19, 1, 19, 1, 19, 1, 19, 1, 19, 1, 19, 1, 19, 3, 19, 137, 8,
  19, 1, 20, 1, 20, 1, 20, 1, 20, 5, 20, 143, 8, 20, 10, 20, 12, 20, 146, 9, 20, 1, 20, 1,
  20, 1, 20, 1, 20, 1, 20, 5, 20, 153, 8, 20, 10, 20, 12, 20, 156, 9, 20, 1, 20, 3, 20, 159,
  8, 20, 1, 21, 1, 21, 1, 22, 1, 22, 0, 0, 23, 3, 0, 5, 0, 7, 0, 9, 1, 11, 2, 13,
  3, 15, 4, 17, 5, 19, 6, 21, 7, 23, 8, 25, 9, 27, 0, 29, 10, 31, 11, 33, 12, 35, 13, 37,
  14, 39, 15, 41, 16, 43, 17, 45, 18, 47, 19, 3, 0, 1, 2, 9, 2, 0, 65, 90, 97, 122, 1, 0,
  48, 57, 2, 0, 9, 10, 13, 13, 4, 0, 9, 10, 13, 13, 37, 37, 123, 125, 3, 0, 9, 10, 13, 13,
  32, 32, 2, 0, 84, 84, 116, 116, 2, 0, 70, 70, 102, 102, 1, 0, 39, 39, 1, 0, 34, 34, 174, 0,
  9, 1, 0, 0, 0, 0, 11, 1, 0, 0, 0, 0, 13, 1, 0, 0, 0, 0, 15, 1, 0, 0, 0, 0,
  17, 1, 0, 0, 0, 0, 19, 1, 0, 0, 0, 0, 21, 1, 0, 0, 0, 1, 23, 1, 0, 0, 0, 1,
  25, 1, 0, 0, 0, 1, 27, 1, 0, 0, 0, 1, 29, 1, 0, 0, 0, 1, 31, 1, 0, 0, 0, 2,
  33, 1, 0, 0, 0, 2, 35, 1, 0, 0, 0, 2, 37, 1, 0, 0, 0, 2, 39, 1, 0, 0, 0, 2,
  41, 1, 0, 0, 0, 2, 43, 1, 0, 0, 0, 2, 45, 1, 0, 0, 0, 2, 47, 1, 0, 0, 0, 3,
  51, 1, 0, 0, 0, 5, 61, 1, 0, 0, 0, 7, 63, 1, 0, 0, 0, 9, 65, 1, 0, 0, 0, 11,
  69, 1, 0, 0, 0, 13, 73, 1, 0, 0, 0, 15, 82, 1, 0, 0, 0, 17, 86, 1, 0, 0, 0, 19,
  88, 1, 0, 0, 0, 21, 90, 1, 0, 0, 0, 23, 92, 1, 0, 0, 0, 25, 96, 1, 0, 0, 0, 27,
  100, 1, 0, 0, 0, 29, 105, 1, 0, 0, 0, 31, 107, 1, 0, 0, 0, 33, 109, 1, 0, 0, 0, 35,
  113, 1, 0, 0, 0, 37, 117, 1, 0, 0, 0, 39, 120, 1, 0, 0, 0, 41, 136, 1, 0, 0, 0, 43,
  158, 1, 0, 0, 0, 45, 160, 1, 0, 0, 0, 47, 162, 1, 0, 0, 0, 49, 52, 3, 5, 1, 0, 50,
  52, 5, 95, 0, 0, 51, 49, 1, 0, 0, 0, 51, 50, 1, 0, 0, 0, 52, 58, 1, 0, 0, 0, 53,
  57, 3, 5, 1, 0, 54, 57, 3, 7, 2, 0, 55, 57, 5, 95, 0, 0, 56, 53, 1, 0, 0, 0, 56,
  54, 1, 0, 0, 0, 56, 55, 1, 0, 0, 0, 57, 60, 1, 0, 0, 0, 58, 56, 1, 0, 0, 0, 58,
  59, 1, 0, 0, 0, 59, 4, 1, 0, 0, 0, 60, 58, 1, 0, 0, 0, 61, 62, 7, 0, 0, 0, 62,
  6, 1, 0, 0, 0, 63, 64, 7, 1, 0, 0, 64, 8, 1, 0, 0, 0, 65, 66, 7, 2, 0, 0, 66,
  67, 1, 0, 0, 0, 67, 68, 6, 3, 0, 0, 68, 10, 1, 0, 0, 0, 69, 70, 5, 37, 0, 0, 70,
  71, 1, 0, 0, 0, 71, 72, 6, 4, 1, 0, 72, 12, 1, 0, 0, 0, 73, 74, 5, 124, 0, 0, 74,
  14, 1, 0, 0, 0, 75, 76, 5, 92, 0, 0, 76, 83, 5, 123, 0, 0, 77, 78, 5, 92, 0, 0, 78,
  83, 5, 125, 0, 0, 79, 80, 5, 92, 0, 0, 80, 83, 5, 124, 0, 0, 81, 83, 8, 3, 0, 0, 82,
  75, 1, 0, 0, 0, 82, 77, 1, 0, 0, 0, 82, 79, 1, 0, 0, 0, 82, 81, 1, 0, 0, 0, 83,
  84, 1, 0, 0, 0, 84, 82, 1, 0, 0, 0, 84, 85, 1, 0, 0, 0, 85, 16, 1, 0, 0, 0, 86,
  87, 5, 123, 0, 0, 87, 18, 1, 0, 0, 0, 88, 89, 5, 125, 0, 0, 89, 20, 1, 0, 0, 0, 90,
  91, 9, 0, 0, 0, 91, 22, 1, 0, 0, 0, 92, 93, 7, 2, 0, 0, 93, 94, 1, 0, 0, 0, 94,
  95, 6, 10, 0, 0, 95, 24, 1, 0, 0, 0, 96, 97, 5, 40, 0, 0, 97, 98, 1, 0, 0, 0, 98,
  99, 6, 11, 2, 0, 99, 26, 1, 0, 0, 0, 100, 101, 5, 123, 0, 0, 101, 102, 1, 0, 0, 0, 102,
  103, 6, 12, 3, 0, 103, 104, 6, 12, 4, 0, 104, 28, 1, 0, 0, 0, 105, 106, 5, 46, 0, 0, 106,
  30, 1, 0, 0, 0, 107, 108, 3, 3, 0, 0, 108, 32, 1, 0, 0, 0, 109, 110, 7, 4, 0, 0, 110,
  111, 1, 0, 0, 0, 111, 112, 6, 15, 0, 0, 112, 34, 1, 0, 0, 0, 113, 114, 5, 41, 0, 0, 114,
  115, 1, 0, 0, 0, 115, 116, 6, 16, 3, 0, 116, 36, 1, 0, 0, 0, 117, 118, 5, 44, 0, 0, 118,
  38, 1, 0, 0, 0, 119, 121, 5, 45, 0, 0, 120, 119, 1, 0, 0, 0, 120, 121, 1, 0, 0, 0, 121,
  123, 1, 0, 0, 0, 122, 124, 3, 7, 2, 0, 123, 122, 1, 0, 0, 0, 124, 125, 1, 0, 0, 0, 125,
  123, 1, 0, 0, 0, 125, 126, 1, 0, 0, 0, 126, 40, 1, 0, 0, 0, 127, 128, 7, 5, 0, 0, 128,
  129, 5, 114, 0, 0, 129, 130, 5, 117, 0, 0, 130, 137, 5, 101, 0, 0, 131, 132, 7, 6, 0, 0, 132,
  133, 5, 97, 0, 0, 133, 134, 5, 108, 0, 0, 134, 135, 5, 115, 0, 0, 135, 137, 5, 101, 0, 0, 136,
  127, 1, 0, 0, 0, 136, 131, 1, 0, 0, 0, 137, 42, 1, 0, 0, 0, 138, 144, 5, 39, 0, 0, 139,
  140, 5, 92, 0, 0, 140, 143, 5, 39, 0, 0, 141, 143, 8, 7, 0, 0, 142, 139, 1, 0, 0, 0, 142,
  141, 1, 0, 0, 0, 143, 146, 1, 0, 0, 0, 144, 142, 1, 0, 0, 0, 144, 145, 1, 0, 0, 0, 145,
  147, 1, 0, 0, 0, 146, 144, 1, 0, 0, 0, 147, 159, 5, 39, 0, 0, 148, 154, 5, 34, 0, 0, 149,
  150, 5, 92, 0, 0, 150, 153, 5, 34, 0, 0, 151, 153, 8, 8, 0, 0, 152, 149, 1, 0, 0, 0, 152,
  151, 1, 0, 0, 0, 153, 156, 1, 0, 0, 0, 154, 152, 1, 0, 0, 0, 154, 155, 1, 0, 0, 0, 155,
  157, 1, 0, 0, 0, 156, 154, 1, 0, 0, 0, 157, 159, 5, 34, 0, 0, 158, 138, 1, 0, 0, 0, 158,
  148, 1, 0, 0, 0, 159, 44, 1, 0, 0, 0, 160, 161, 3, 3, 0, 0, 161, 46, 1, 0, 0, 0, 162,
  163, 5, 61, 0, 0, 163, 48, 1, 0, 0, 0, 16, 0, 1, 2, 51, 56, 58, 82, 84, 120, 125, 136, 142,
  144, 152, 154, 158, 5, 6, 0, 0, 2, 1, 0, 2, 2, 0, 2, 0, 0, 7, 5, 0
]
theorem lexer_automaton_as_modelled : Pinned_lexerATN := rfl

def Pinned_lexerRuleNames : Prop := Extracted.lexerRuleNames = [
  "ID",
  "LETTER",
  "NUMBER_CHAR",
  "GLOBAL_WHITESPACE",
  "TAG_START",
  "PIPE",
  "TEXT",
  "CONTEXT_START",
  "CONTEXT_END",
  "ANY",
  "TAG_WHITESPACE",
  "ARGS_START",
  "CONTEXT_START_AFTER_TAG",
  "CATEGORY_SEPARATOR",
  "TAG_ID",
  "ARGS_WHITESPACE",
  "ARGS_END",
  "ARG_SEPARATOR",
  "NUMERIC_VALUE",
  "BOOLEAN_VALUE",
  "STRING_VALUE",
  "ARG_NAME",
  "ARG_EQUALS"
]
theorem lexer_rules_as_modelled : Pinned_lexerRuleNames := rfl

def Pinned_lexerModeNames : Prop := Extracted.lexerModeNames = [
  "DEFAULT_MODE",
  "TAG_MODE",
  "ARGS_MODE"
]
theorem lexer_modes_as_modelled : Pinned_lexerModeNames := rfl

def Pinned_parserATN : Prop := Extracted.parserATN = [
  4, 1, 19, 125, 2, 0, 7, 0, 2, 1, 7, 1, 2, 2, 7, 2, 2, 3, 7, 3, 2, 4, 7, 4,
  2, 5, 7, 5, 2, 6, 7, 6, 2, 7, 7, 7, 1, 0, 1, 0, 1, 0, 1, 1, 1, 1, 1, 1,
  3, 1, 23, 8, 1, 1, 1, 1, 1, 1, 1, 1, 1, 1, 1, 1, 1, 3, 1, 31, 8, 1, 1, 1,
  1, 1, 1, 1, 3, 1, 36, 8, 1, 1, 1, 1, 1, 1, 1, 1, 1, 1, 1, 1, 1, 1, 1, 1,
  1, 1, 1, 1, 1, 1, 1, 1, 1, 1, 1, 1, 1, 3, 1, 52, 8, 1, 1, 1, 1, 1, 1, 1,
  1, 1, 1, 1, 1, 1, 1, 1, 1, 1, 1, 1, 3, 1, 63, 8, 1, 1, 2, 1, 2, 4, 2, 67,
  8, 2, 11, 2, 12, 2, 68, 1, 2, 1, 2, 4, 2, 73, 8, 2, 11, 2, 12, 2, 74, 3, 2, 77,
  8, 2, 1, 3, 1, 3, 5, 3, 81, 8, 3, 10, 3, 12, 3, 84, 9, 3, 1, 3, 3, 3, 87, 8,
  3, 1, 4, 1, 4, 1, 4, 1, 4, 1, 4, 1, 4, 5, 4, 95, 8, 4, 10, 4, 12, 4, 98, 9,
  4, 1, 4, 1, 4, 1, 4, 1, 4, 1, 4, 1, 4, 1, 4, 5, 4, 107, 8, 4, 10, 4, 12, 4,
  110, 9, 4, 3, 4, 112, 8, 4, 1, 5, 1, 5, 1, 5, 1, 5, 1, 5, 3, 5, 119, 8, 5, 1,
  6, 1, 6, 1, 7, 1, 7, 1, 7, 0, 0, 8, 0, 2, 4, 6, 8, 10, 12, 14, 0, 1, 1, 0,
  15, 17, 139, 0, 16, 1, 0, 0, 0, 2, 62, 1, 0, 0, 0, 4, 76, 1, 0, 0, 0, 6, 82, 1,
  0, 0, 0, 8, 111, 1, 0, 0, 0, 10, 118, 1, 0, 0, 0, 12, 120, 1, 0, 0, 0, 14, 122, 1,
  0, 0, 0, 16, 17, 3, 6, 3, 0, 17, 18, 5, 0, 0, 1, 18, 1, 1, 0, 0, 0, 19, 22, 5,
  2, 0, 0, 20, 21, 5, 11, 0, 0, 21, 23, 5, 10, 0, 0, 22, 20, 1, 0, 0, 0, 22, 23, 1,
  0, 0, 0, 23, 24, 1, 0, 0, 0, 24, 25, 5, 11, 0, 0, 25, 30, 3, 8, 4, 0, 26, 27, 5,
  5, 0, 0, 27, 28, 3, 6, 3, 0, 28, 29, 5, 6, 0, 0, 29, 31, 1, 0, 0, 0, 30, 26, 1,
  0, 0, 0, 30, 31, 1, 0, 0, 0, 31, 63, 1, 0, 0, 0, 32, 35, 5, 2, 0, 0, 33, 34, 5,
  11, 0, 0, 34, 36, 5, 10, 0, 0, 35, 33, 1, 0, 0, 0, 35, 36, 1, 0, 0, 0, 36, 37, 1,
  0, 0, 0, 37, 38, 5, 11, 0, 0, 38, 39, 5, 5, 0, 0, 39, 40, 3, 6, 3, 0, 40, 41, 5,
  6, 0, 0, 41, 63, 1, 0, 0, 0, 42, 43, 5, 2, 0, 0, 43, 44, 5, 10, 0, 0, 44, 45, 5,
  11, 0, 0, 45, 63, 3, 8, 4, 0, 46, 47, 5, 2, 0, 0, 47, 63, 5, 11, 0, 0, 48, 49, 5,
  2, 0, 0, 49, 51, 5, 11, 0, 0, 50, 52, 3, 8, 4, 0, 51, 50, 1, 0, 0, 0, 51, 52, 1,
  0, 0, 0, 52, 53, 1, 0, 0, 0, 53, 54, 5, 5, 0, 0, 54, 63, 3, 6, 3, 0, 55, 56, 5,
  2, 0, 0, 56, 63, 3, 8, 4, 0, 57, 58, 5, 2, 0, 0, 58, 59, 5, 5, 0, 0, 59, 60, 3,
  6, 3, 0, 60, 61, 5, 6, 0, 0, 61, 63, 1, 0, 0, 0, 62, 19, 1, 0, 0, 0, 62, 32, 1,
  0, 0, 0, 62, 42, 1, 0, 0, 0, 62, 46, 1, 0, 0, 0, 62, 48, 1, 0, 0, 0, 62, 55, 1,
  0, 0, 0, 62, 57, 1, 0, 0, 0, 63, 3, 1, 0, 0, 0, 64, 65, 5, 3, 0, 0, 65, 67, 3,
  2, 1, 0, 66, 64, 1, 0, 0, 0, 67, 68, 1, 0, 0, 0, 68, 66, 1, 0, 0, 0, 68, 69, 1,
  0, 0, 0, 69, 77, 1, 0, 0, 0, 70, 71, 5, 3, 0, 0, 71, 73, 3, 14, 7, 0, 72, 70, 1,
  0, 0, 0, 73, 74, 1, 0, 0, 0, 74, 72, 1, 0, 0, 0, 74, 75, 1, 0, 0, 0, 75, 77, 1,
  0, 0, 0, 76, 66, 1, 0, 0, 0, 76, 72, 1, 0, 0, 0, 77, 5, 1, 0, 0, 0, 78, 81, 3,
  14, 7, 0, 79, 81, 3, 2, 1, 0, 80, 78, 1, 0, 0, 0, 80, 79, 1, 0, 0, 0, 81, 84, 1,
  0, 0, 0, 82, 80, 1, 0, 0, 0, 82, 83, 1, 0, 0, 0, 83, 86, 1, 0, 0, 0, 84, 82, 1,
  0, 0, 0, 85, 87, 3, 4, 2, 0, 86, 85, 1, 0, 0, 0, 86, 87, 1, 0, 0, 0, 87, 7, 1,
  0, 0, 0, 88, 89, 5, 9, 0, 0, 89, 112, 5, 13, 0, 0, 90, 91, 5, 9, 0, 0, 91, 96, 3,
  10, 5, 0, 92, 93, 5, 14, 0, 0, 93, 95, 3, 10, 5, 0, 94, 92, 1, 0, 0, 0, 95, 98, 1,
  0, 0, 0, 96, 94, 1, 0, 0, 0, 96, 97, 1, 0, 0, 0, 97, 99, 1, 0, 0, 0, 98, 96, 1,
  0, 0, 0, 99, 100, 5, 13, 0, 0, 100, 112, 1, 0, 0, 0, 101, 112, 5, 9, 0, 0, 102, 103, 5,
  9, 0, 0, 103, 108, 3, 10, 5, 0, 104, 105, 5, 14, 0, 0, 105, 107, 3, 10, 5, 0, 106, 104, 1,
  0, 0, 0, 107, 110, 1, 0, 0, 0, 108, 106, 1, 0, 0, 0, 108, 109, 1, 0, 0, 0, 109, 112, 1,
  0, 0, 0, 110, 108, 1, 0, 0, 0, 111, 88, 1, 0, 0, 0, 111, 90, 1, 0, 0, 0, 111, 101, 1,
  0, 0, 0, 111, 102, 1, 0, 0, 0, 112, 9, 1, 0, 0, 0, 113, 114, 5, 18, 0, 0, 114, 115, 5,
  19, 0, 0, 115, 119, 3, 12, 6, 0, 116, 119, 5, 18, 0, 0, 117, 119, 3, 12, 6, 0, 118, 113, 1,
  0, 0, 0, 118, 116, 1, 0, 0, 0, 118, 117, 1, 0, 0, 0, 119, 11, 1, 0, 0, 0, 120, 121, 7,
  0, 0, 0, 121, 13, 1, 0, 0, 0, 122, 123, 5, 4, 0, 0, 123, 15, 1, 0, 0, 0, 15, 22, 30,
  35, 51, 62, 68, 74, 76, 80, 82, 86, 96, 108, 111, 118
]
theorem parser_automaton_as_modelled : Pinned_parserATN := rfl

def Pinned_parserRuleNames : Prop := Extracted.parserRuleNames = [
  "rootPattern",
  "tag",
  "pipeList",
  "pattern",
  "argumentList",
  "argument",
  "argumentValue",
  "rawText"
]
theorem parser_rules_as_modelled : Pinned_parserRuleNames := rfl


end C10
end Tempren

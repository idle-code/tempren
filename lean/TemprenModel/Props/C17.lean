import TemprenModel.Lemmas.PathLemmas
/-!
# C17 — Name, Base, Ext and Dir decompose every path losslessly

`Base ++ Ext = Name` for every final component and every context, the shape of the two halves (the extension is
empty or starts with a dot, the stem of a non-empty name is not empty), and `%Dir()/%Name()` read back as a path
is the file's relative path.  The facts about `splitSlash`/`joinSlash` and `parsePath (strPath p) = p` are in
`Lemmas/PathLemmas.lean`.
-/
namespace Tempren
namespace C17

/-- A relative path as tempren's gatherers produce it: at least one component,
    no empty / "." components, no separator inside a component. -/
def ValidRel (p : PurePath) : Prop :=
  p.abs = false ∧ p.parts ≠ [] ∧ ∀ c ∈ p.parts, c ≠ [] ∧ c ≠ dot ∧ '/' ∉ c

/-- `Base ++ Ext = Name` for every final component whatsoever. -/
theorem stem_append_suffix (n : Str) : stemOf n ++ suffixOf n = n := by
  unfold stemOf suffixOf; exact List.take_append_drop _ _

/-- `%Base()%Ext()` equals `%Name()` for every file. -/
theorem base_ext_eq_name (rel : PurePath) (ctx : Option Str) :
    tagBase rel ctx ++ tagExt rel ctx = tagName rel ctx := by
  unfold tagBase tagExt tagName stemP suffixP; exact stem_append_suffix _

/-- … in particular for every non-empty context string read as a path. -/
theorem base_ext_eq_name_ctx (rel : PurePath) (c : Str) (_h : c ≠ []) :
    tagBase rel (some c) ++ tagExt rel (some c) = nameOf (parsePath c) := by
  rw [base_ext_eq_name]; simp [tagName, tagPath, _h]

/-- The extension is empty or starts with a dot. -/
theorem suffix_shape (n : Str) : suffixOf n = [] ∨ (suffixOf n).head? = some '.' := by
  unfold suffixOf suffixIdx
  cases h : rfindDot n with
  | none => simp
  | some i =>
    dsimp only
    split
    · exact .inr (rfindDot_some n i h)
    · simp

/-- The stem is never empty for a non-empty name (so `Base` really is "the name without its extension"). -/
theorem stem_nonempty (n : Str) (h : n ≠ []) : stemOf n ≠ [] := by
  unfold stemOf suffixIdx
  cases hr : rfindDot n with
  | none => simpa using h
  | some i =>
    simp only
    split
    · rename_i hi
      intro e
      rw [List.take_eq_nil_iff] at e
      rcases e with e | e
      · omega
      · subst e; simp at hi
    · simpa using h

/-- `%Dir()/%Name()` read back as a path is the file's relative path. -/
theorem dir_join_name (p : PurePath) (h : ValidRel p) :
    parsePath (strPath (tagDir p none) ++ '/' :: tagName p none) = p := by
  obtain ⟨habs, hne, hparts⟩ := h
  obtain ⟨abs, parts⟩ := p
  obtain ⟨ps, last, rfl⟩ : ∃ ps last, parts = ps ++ [last] := ⟨_, _, (List.dropLast_concat_getLast hne).symm⟩
  dsimp only at habs; subst habs
  simp only [tagDir, tagName, tagPath, parentOf, nameOf, strPath, List.dropLast_concat, List.getLast?_concat,
    Option.getD_some, Bool.false_eq_true, if_false]
  by_cases hp : ps = []
  · -- a bare name: `./name`, whose `.` the parser drops
    subst hp
    obtain ⟨hl0, hldot, hlsl⟩ := hparts last (by simp)
    have h1 : splitSlash (dot ++ '/' :: last) = [dot, last] := by
      rw [splitSlash_append_slash dot last (by decide), splitSlash_noslash last hlsl]
    simp only [if_true, parsePath, h1]
    simp [dot, hl0]
    exact hldot
  · -- otherwise the text is `str(p)`
    rw [if_neg hp, joinSlash_concat ps last hp]
    have := parsePath_strPath ⟨false, ps ++ [last]⟩ hparts
    simpa [strPath] using this

/-- Non-vacuity: a nested path with a multi-dot hidden name is `ValidRel`. -/
example : ValidRel ⟨false, ["sub dir".toList, ".a.tar.gz".toList]⟩ := by
  rw [String.toList_ofList, String.toList_ofList]
  unfold ValidRel
  decide +kernel

example : stemOf ".a.tar.gz".toList = ".a.tar".toList ∧ suffixOf ".a.tar.gz".toList = ".gz".toList := by
  repeat rw [String.toList_ofList]
  decide +kernel

end C17
end Tempren

import TemprenModel.Lemmas.EscLemmas
import TemprenModel.Lemmas.IntLemmas
/-!
# C10 — Templates mean what they say: text and arguments arrive verbatim

Value-level round trips, over the escape table *extracted from parser.py on every run*:
text, strings (both quote marks), integers, booleans; then where the TEXT and string sub-lexers end a
printed text or literal (`takeTextAux_escText`, `findHardEnd_escStr`).  Whole trees: `Props/C10Tokens.lean` (`parse_print_tokens`: the
parser reads back the token sequence of every printed tree) and `Props/C10Tree.lean`
(`lex_print`, `parse_print`: the same on the template text, through the three-mode lexer).
-/
namespace Tempren
namespace C10

/-- **raw text**: writing `\\` for a backslash and `\{ \} \|` for braces and pipes is undone
    exactly by the parser's `unescape`, for every text that does not end in a backslash.
    Taken alone even such a text comes back (`unescapeText_escText` needs no hypothesis); what it does not survive
    is a character glued behind it, see `unescape_escText_needs_condition`. -/
theorem unescape_escText (s : List Char) (h : s.getLast? ≠ some '\\') : unescapeText (escText s) = s :=
  unescapeText_escText s

/-- why the condition is there: with a brace glued behind it by the lexer, a text ending in a backslash does not
    survive (its doubled backslash pairs with the brace) — concrete witness -/
theorem unescape_escText_needs_condition : unescapeText (escText ['a', '\\'] ++ ['}']) ≠ ['a', '\\', '}'] := by
  decide

/-- **string arguments**: `\\` and `\q` written inside a literal quoted with `q` are undone exactly
    by `unescape_string`, for every string and both quote marks -/
theorem unescapeStr_escStr (q : Char) (s : List Char) : unescapeStr q (escStr q s) = s := by
  unfold unescapeStr
  apply unescapeStrWith_escStr
  · exact List.mem_append_left _ (by decide)
  · simp

theorem digits_unsigned {ds : List Char} (hne : ds ≠ []) (hd : ds.all isDigitChar = true) :
    stripMinus ds = ds ∧ parseIntLit ds = some (parseDigits ds : Int) := by
  cases ds with
  | nil => exact absurd rfl hne
  | cons c r =>
    have hc : c ≠ '-' := by
      rintro rfl
      simp [isDigitChar] at hd
    simp [stripMinus, parseIntLit, hc, hd]

/-- **integers** of any magnitude up to CPython's conversion limit -/
theorem numValue_print (i : Int) (h : (natDigits i.natAbs).length ≤ intMaxStrDigits) :
    numValue (pyIntStr i) = some i := by
  have hd := all_digits_natDigits i.natAbs
  have hne := natDigits_ne_nil i.natAbs
  obtain ⟨hs, hp⟩ := digits_unsigned hne hd
  rw [parseDigits_natDigits] at hp
  unfold numValue pyIntStr
  split
  · rw [show stripMinus ('-' :: natDigits i.natAbs) = natDigits i.natAbs from rfl, if_neg (by omega)]
    simp only [parseIntLit, hne, hd, ne_eq, not_false_eq_true, and_self, if_true, parseDigits_natDigits]
    congr 1; omega
  · rw [hs, if_neg (by omega), hp]
    congr 1; omega

/-- **booleans**, both spellings -/
theorem boolValue_words :
    boolValue "true".toList = true ∧ boolValue "True".toList = true ∧
    boolValue "false".toList = false ∧ boolValue "False".toList = false := by
  unfold boolValue
  repeat rw [String.toList_ofList]
  decide

/-- a value printed in any style is read back as the same value -/
theorem parseValue_print (st : Style) (v : ArgVal) (rest : List Tok)
    (hint : ∀ i, v = .int i → (natDigits i.natAbs).length ≤ intMaxStrDigits)
    (ht : boolValue st.trueWord = true) (hf : boolValue st.falseWord = false) :
    (match v with
     | .int i => parseValue (.num (pyIntStr i) :: rest)
     | .bool b => parseValue (.bool (if b then st.trueWord else st.falseWord) :: rest)
     | .str s => parseValue (.str (st.quote s) (escStr (st.quote s) s) :: rest)) = some (v, rest) := by
  cases v with
  | int i => simp [parseValue, numValue_print i (hint i rfl)]
  | bool b => cases b <;> simp [parseValue, ht, hf]
  | str s => simp [parseValue, unescapeStr_escStr]

/-- Non-vacuity: texts and strings full of metacharacters. -/
example : unescapeText (escText "a\\{b|c}\\\\x'y".toList) = "a\\{b|c}\\\\x'y".toList := by
  rw [String.toList_ofList]; decide
example : unescapeStr '"' (escStr '"' "say \"hi\" \\ 'x' \\\"".toList) = "say \"hi\" \\ 'x' \\\"".toList := by
  rw [String.toList_ofList]; decide

/-! ### raw text: where the TEXT token ends -/

/-- a text the grammar can carry as ONE piece of raw text: no `%`, none of the white space the lexer skips -/
def TextOk (s : List Char) : Prop := ∀ c ∈ s, c ≠ '%' ∧ isGlobalWs c = false

/-- whether the last character read is a backslash, `prev` saying so for what came before `s` -/
def endsBs (prev : Bool) (s : List Char) : Bool := (s.getLast?.map fun c => decide (c = '\\')).getD prev

theorem endsBs_cons (prev : Bool) (c : Char) (t : List Char) : endsBs prev (c :: t) = endsBs (c = '\\') t := by
  unfold endsBs
  rw [List.getLast?_cons]
  cases t.getLast? <;> rfl

theorem endsBs_false {prev : Bool} {s : List Char} (hp : s = [] → prev = false) (hlast : s.getLast? ≠ some '\\') :
    endsBs prev s = false := by
  unfold endsBs
  cases h : s.getLast? with
  | none => exact hp (List.getLast?_eq_none_iff.mp h)
  | some d => simpa [h] using hlast

/-- one printed character is absorbed whatever came before it; only a backslash leaves the lexer ready to
    absorb a brace or pipe behind it -/
theorem takeTextAux_escTextChar (c : Char) (hc : c ≠ '%' ∧ isGlobalWs c = false) (prev : Bool) (r : List Char) :
    takeTextAux prev (escTextChar c ++ r) =
      (escTextChar c ++ (takeTextAux (c = '\\') r).1, (takeTextAux (c = '\\') r).2) := by
  have hbs : isBraceOrPipe '\\' = false := by decide
  by_cases hb : c = '\\'
  · subst hb
    simp [escTextChar, takeTextAux, hbs, isGlobalWs]
  · by_cases hbp : isBraceOrPipe c = true
    · simp [escTextChar, takeTextAux, hb, hbp, hbs, isGlobalWs]
    · simp [escTextChar, takeTextAux, hb, hbp, hc]

/-- the TEXT token takes the whole printed text, and goes on behind it as if it had just read the text's last
    character -/
theorem takeTextAux_escText_append (r : List Char) : ∀ (s : List Char) (prev : Bool), TextOk s →
    takeTextAux prev (escText s ++ r) =
      (escText s ++ (takeTextAux (endsBs prev s) r).1, (takeTextAux (endsBs prev s) r).2) := by
  intro s
  induction s with
  | nil => intro prev _; rfl
  | cons c t ih =>
    intro prev hok
    rw [escText_cons, List.append_assoc, takeTextAux_escTextChar c (hok c (by simp)), ih _ (fun x hx => hok x (by simp [hx])),
      endsBs_cons, List.append_assoc]

/-- the TEXT token takes the whole printed text, whatever came before it -/
theorem takeTextAux_escText : ∀ (s : List Char) (prev : Bool), TextOk s →
    takeTextAux prev (escText s) = (escText s, []) := by
  intro s prev hok
  simpa [takeTextAux] using takeTextAux_escText_append [] s prev hok

theorem escText_ne_nil {s : List Char} (h : s ≠ []) : escText s ≠ [] := by
  cases s with
  | nil => exact absurd rfl h
  | cons c t =>
    simp only [escText, List.flatMap_cons, escTextChar]
    split
    · exact List.cons_ne_nil _ _
    · split <;> exact List.cons_ne_nil _ _

/-- the hypotheses are satisfiable, metacharacters included -/
example : TextOk "a{b}|c\\ d".toList ∧ "a{b}|c\\ d".toList.getLast? ≠ some '\\' := by
  rw [String.toList_ofList]
  simp only [TextOk, List.forall_mem_cons]
  decide

/-! ### a string argument: where the literal ends -/

theorem findHardEnd_escStrChar (q : Char) (hq : q ≠ '\\') (c : Char) (prev : Bool) (r : List Char) :
    findHardEnd q prev (escStrChar q c ++ r) = (findHardEnd q (c = '\\') r).map (· + (escStrChar q c).length) := by
  have hq' : ¬ '\\' = q := fun h => hq h.symm
  by_cases hb : c = '\\'
  · subst hb
    cases h : findHardEnd q true r <;> simp [escStrChar, findHardEnd, hq', h]
  · by_cases hcq : c = q
    · subst hcq
      cases h : findHardEnd c false r <;> simp [escStrChar, findHardEnd, hb, hq', h]
    · cases h : findHardEnd q false r <;> simp [escStrChar, findHardEnd, hb, hcq, h]

theorem findHardEnd_escStr_append (q : Char) (hq : q ≠ '\\') (r : List Char) : ∀ (s : List Char) (prev : Bool),
    findHardEnd q prev (escStr q s ++ r) = (findHardEnd q (endsBs prev s) r).map (· + (escStr q s).length) := by
  intro s
  induction s with
  | nil => intro prev; simp [escStr, endsBs]
  | cons c t ih =>
    intro prev
    rw [escStr_cons, List.append_assoc, findHardEnd_escStrChar q hq, ih, endsBs_cons]
    cases findHardEnd q (endsBs (c = '\\') t) r <;> simp <;> omega

/-- the closing quote of a printed literal is the first quote not protected by a backslash -/
theorem findHardEnd_escStr (q : Char) (hq : q ≠ '\\') (rest : List Char) :
    ∀ (s : List Char) (prev : Bool), (s = [] → prev = false) → s.getLast? ≠ some '\\' →
      findHardEnd q prev (escStr q s ++ q :: rest) = some (escStr q s).length := by
  intro s prev hp hlast
  rw [findHardEnd_escStr_append q hq, endsBs_false hp hlast]
  simp [findHardEnd]

/-- the STRING token of a printed literal is exactly the printed body, whatever follows -/
theorem takeString_escStr (q : Char) (hq : q ≠ '\\') (s rest : List Char) (hlast : s.getLast? ≠ some '\\') :
    takeString q (escStr q s ++ q :: rest) = some (escStr q s, rest) := by
  unfold takeString
  rw [findHardEnd_escStr q hq rest s false (fun _ => rfl) hlast]
  simp

/-- the TEXT token of a printed text ends exactly where a pipe, a closing brace or a tag begins — provided the
    text does not end in a backslash (which would protect that very character) -/
theorem takeTextAux_escText_stop (stop : Char) (hstop : stop = '|' ∨ stop = '}' ∨ stop = '{' ∨ stop = '%') (rest : List Char) :
    ∀ (s : List Char) (prev : Bool), TextOk s → (s = [] → prev = false) → s.getLast? ≠ some '\\' →
      takeTextAux prev (escText s ++ stop :: rest) = (escText s, stop :: rest) := by
  intro s prev hok hp hlast
  rw [takeTextAux_escText_append _ s prev hok, endsBs_false hp hlast]
  rcases hstop with rfl | rfl | rfl | rfl <;> simp [takeTextAux, isBraceOrPipe]

end C10
end Tempren

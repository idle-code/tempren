import TemprenModel.Lemmas.NameMode
import TemprenModel.Lemmas.PipelineLemmas
import TemprenModel.Lemmas.ListLemmas
/-!
# C02 — A reported success means the template's plan was applied exactly

Proved here, for every renamer, tree, file list, plan and order: a run that ends successfully under
the default (stop) strategy has reported **exactly one rename for each file whose generated path
differs from its current one, with exactly the generated destination, none with override, and
nothing else** (`success_reports_exactly_the_plan`).  Each reported rename is one renamer call that
succeeded, and by C01/C06 such a call moves exactly its source (identity and content kept) onto a
path that did not exist.  **Free plans succeed** is proved for name mode on link-free trees
(`free_plan_succeeds_name_mode`: every file list, order, strategy and scripted answers; the real run ends
`done` having reported exactly the planned renames in processing order), and the *composition* of the
renames is the plan applied to the initial tree, identities and contents (`free_plan_applied_name_mode`):
one induction over the real run with the invariant `RealInv`, each call in the closed form of
`C05.Resolved.fileRenamer_eq`.  Chains visited from the near end: C02Chain.lean; what a reported success means
at the level of paths, for every plan: C02Paths.lean.  Plans mixing both
directions, path and directory mode are decided by the oracle and the exhaustive small-plan enumeration
of the check (not theorems).
-/
namespace Tempren
namespace C02
variable {σ : Type}

abbrev Move := APath × PurePath × PurePath

/-- the renames the plan asks for: every file whose generated path differs from its relative path -/
def planned (gen : Nat → Gen) : Nat → List FileRec → List Move
  | _, [] => []
  | i, f :: rest =>
    (match gen i with
     | .path p => if p = f.rel then [] else [(f.inputDir, f.rel, p)]
     | _ => []) ++ planned gen (i + 1) rest

def moveOf (e : Event) : Move := (e.dir, e.src, e.dst)

theorem planned_cons (gen : Nat → Gen) (i : Nat) (f : FileRec) (rest : List FileRec) (p : PurePath)
    (hg : gen i = .path p) :
    planned gen i (f :: rest) = (if p = f.rel then [] else [(f.inputDir, f.rel, p)]) ++ planned gen (i + 1) rest := by
  rw [planned, hg]

theorem mem_planned {gen : Nat → Gen} : ∀ {files : List FileRec} {i : Nat} {m : Move}, m ∈ planned gen i files ↔
    ∃ (j : Nat) (f : FileRec) (p : PurePath), files[j]? = some f ∧ gen (i + j) = .path p ∧ p ≠ f.rel ∧ m = (f.inputDir, f.rel, p) := by
  intro files
  induction files with
  | nil => simp [planned]
  | cons f rest ih =>
    intro i m
    rw [planned, List.mem_append, ih]
    constructor
    · rintro (h | ⟨j, f', p, hf, hg, h⟩)
      · cases hg : gen i with
        | path p =>
          rw [hg] at h
          by_cases hp : p = f.rel
          · simp [hp] at h
          · simp only [if_neg hp, List.mem_singleton] at h
            exact ⟨0, f, p, rfl, hg, hp, h⟩
        | invalidName => rw [hg] at h; cases h
        | error => rw [hg] at h; cases h
      · exact ⟨j + 1, f', p, hf, by rwa [Nat.add_right_comm] at hg, h⟩
    · rintro ⟨j, f', p, hf, hg, hne, rfl⟩
      cases j with
      | zero =>
        cases hf
        exact .inl (by simp [show gen i = .path p from hg, hne])
      | succ j => exact .inr ⟨j, f', p, hf, by rwa [Nat.add_right_comm], hne, rfl⟩

/-- **what a completed first pass has done**: every file had a generated path; what has been reported plus what
    was deferred is what the plan asked for so far; every planned rename has been tried, without override -/
theorem firstPass_complete (R : Renamer σ) (gen : Nat → Gen) :
    ∀ (files : List FileRec) (i : Nat) (r r' : Run σ) (bl bl' : Backlog),
      firstPass R gen i files r bl = (r', bl', none) →
      (∀ k, k < files.length → ∃ p, gen (i + k) = .path p) ∧
      (r'.events.map moveOf ++ bl').Perm (r.events.map moveOf ++ bl ++ planned gen i files) ∧
      (∀ c ∈ r.calls, c ∈ r'.calls) ∧ ∀ m ∈ planned gen i files, (m.1, m.2.1, m.2.2, false) ∈ r'.calls := by
  intro files
  induction files with
  | nil =>
    intro i r r' bl bl' h
    simp only [firstPass, Prod.mk.injEq, and_true] at h
    obtain ⟨rfl, rfl⟩ := h
    exact ⟨fun k hk => absurd hk (Nat.not_lt_zero k), (by simp [planned]), fun c => id, fun m hm => nomatch hm⟩
  | cons f rest ih =>
    intro i r r' bl bl' h
    rw [firstPass] at h
    cases hg : gen i with
    | invalidName => simp [hg] at h
    | error => simp [hg] at h
    | path p =>
      -- the rest of the list, after file `i` has left the run in `r₁` with backlog `bl₁`
      have tail : ∀ (r₁ : Run σ) (bl₁ : Backlog), firstPass R gen (i + 1) rest r₁ bl₁ = (r', bl', none) →
          (r₁.events.map moveOf ++ bl₁).Perm (r.events.map moveOf ++ bl ++
            if p = f.rel then [] else [(f.inputDir, f.rel, p)]) →
          (∀ c ∈ r.calls, c ∈ r₁.calls) → (p ≠ f.rel → (f.inputDir, f.rel, p, false) ∈ r₁.calls) →
          (∀ k, k < (f :: rest).length → ∃ p, gen (i + k) = .path p) ∧
          (r'.events.map moveOf ++ bl').Perm (r.events.map moveOf ++ bl ++ planned gen i (f :: rest)) ∧
          (∀ c ∈ r.calls, c ∈ r'.calls) ∧ ∀ m ∈ planned gen i (f :: rest), (m.1, m.2.1, m.2.2, false) ∈ r'.calls := by
        intro r₁ bl₁ h₁ hperm hmono hself
        obtain ⟨a1, a2, a4, a5⟩ := ih (i + 1) r₁ r' bl₁ bl' h₁
        rw [planned_cons gen i f rest p hg]
        refine ⟨fun k hk => ?_, ?_, fun c hc => a4 c (hmono c hc), fun m hm => ?_⟩
        · cases k with
          | zero => exact ⟨p, hg⟩
          | succ k => rw [← Nat.add_assoc, Nat.add_right_comm]; exact a1 k (Nat.lt_of_succ_lt_succ hk)
        · exact a2.trans (by rw [← List.append_assoc]; exact hperm.append_right _)
        · rcases List.mem_append.mp hm with hm | hm
          · split at hm
            · cases hm
            · rw [List.mem_singleton.mp hm]
              exact a4 _ (hself ‹_›)
          · exact a5 m hm
      simp only [hg] at h
      split at h
      · rename_i hp
        exact tail r bl h (by simp [hp]) (fun c => id) (fun hne => absurd hp hne)
      · rename_i hp
        split at h <;> try cases h
        have hev := Run.call_events R r f.inputDir f.rel p false
        have hcalls := Run.call_calls R r f.inputDir f.rel p false
        generalize r.call R f.inputDir f.rel p false = c at h hev hcalls
        obtain ⟨r₁, err⟩ := c
        have hmono : ∀ c ∈ r.calls, c ∈ r₁.calls := fun c hc => by rw [hcalls]; exact List.mem_append_left _ hc
        have hself : (f.inputDir, f.rel, p, false) ∈ r₁.calls := by rw [hcalls]; simp
        dsimp only at hev
        cases err with
        | none =>
          refine tail r₁ bl h ?_ hmono fun _ => hself
          simp only [hev, if_true, if_neg hp, List.map_append, List.map_cons, List.map_nil, moveOf, List.append_assoc]
          exact List.Perm.append_left _ List.perm_append_comm
        | some e =>
          dsimp only at h
          split at h
          · exact tail r₁ _ h (by simp [hev, hp]) hmono fun _ => hself
          · cases h

theorem outcomeOfErr_ne_done (e : RenErr) : outcomeOfErr e ≠ .done := by cases e <;> simp [outcomeOfErr]

theorem firstPass_ne_done (R : Renamer σ) (gen : Nat → Gen) (files : List FileRec) (i : Nat) (r : Run σ) (bl : Backlog) :
    (firstPass R gen i files r bl).2.2 ≠ some .done := by
  fun_induction firstPass R gen i files r bl <;> simp_all [outcomeOfErr_ne_done]

theorem resolveConflict_ne_done (R : Renamer σ) (r : Run σ) (dir : APath) (src dst : PurePath) (s : Strategy)
    (as : List Answer) : (resolveConflict R r dir src dst s as).2.2 ≠ some .done := by
  fun_cases resolveConflict R r dir src dst s as <;> simp_all <;> split <;> simp [outcomeOfErr_ne_done]

theorem secondPass_ne_done (R : Renamer σ) (s : Strategy) (bl : List Move) (r : Run σ) (as : List Answer) :
    (secondPass R s bl r as).2 ≠ some .done := by
  fun_induction secondPass R s bl r as <;> try simp_all [outcomeOfErr_ne_done]
  rename_i hrc
  intro ho
  exact resolveConflict_ne_done R _ _ _ _ s _ (by rw [hrc, ho])

theorem execute_done {R : Renamer σ} {st : σ} {files : List FileRec} {gen : Nat → Gen} {s : Strategy} {as : List Answer}
    (h : (execute R st files gen s as).2 = .done) :
    ∃ r₁ bl, firstPass R gen 0 files { st := st } [] = (r₁, bl, none) ∧
      secondPass R s bl.reverse r₁ as = ((execute R st files gen s as).1, none) := by
  revert h
  fun_cases execute R st files gen s as
  · rename_i r bl o h₁
    rintro rfl
    exact absurd (congrArg (fun x => x.2.2) h₁) (firstPass_ne_done R gen files 0 _ _)
  · rename_i r bl h₁ r' o h₂
    rintro rfl
    exact absurd (congrArg Prod.snd h₂) (secondPass_ne_done R s _ _ _)
  · exact fun _ => ⟨_, _, ‹_›, ‹_›⟩

/-- **what a second pass under stop or ignore has done**: it has reported a sub-list of the deferred renames in retry
    order — all of them if it came to its end under stop -/
theorem secondPass_accounts (R : Renamer σ) {s : Strategy} (hs : s = .stop ∨ s = .ignore) :
    ∀ (bl : List Move) (r r' : Run σ) (as : List Answer) (o : Option Outcome),
      secondPass R s bl r as = (r', o) →
      ∃ sub, List.Sublist sub bl ∧ r'.events.map moveOf = r.events.map moveOf ++ sub ∧
        (s = .stop → o = none → sub = bl) := by
  intro bl
  induction bl with
  | nil =>
    intro r r' as o h
    cases h
    exact ⟨[], .refl _, (by simp), fun _ _ => rfl⟩
  | cons x rest ih =>
    intro r r' as o h
    obtain ⟨dir, src, dst⟩ := x
    -- the pass ends here, having reported nothing new
    have halt : ∀ {r₁ : Run σ} {o₁ : Option Outcome}, r₁.events = r.events → o₁ ≠ none → (r₁, o₁) = (r', o) →
        ∃ sub, List.Sublist sub ((dir, src, dst) :: rest) ∧ r'.events.map moveOf = r.events.map moveOf ++ sub ∧
          (s = .stop → o = none → sub = (dir, src, dst) :: rest) := by
      rintro r₁ o₁ hev ho ⟨⟩
      exact ⟨[], List.nil_sublist _, (by simp [hev]), fun _ h => absurd h ho⟩
    rw [secondPass] at h
    split at h
    · exact halt rfl (by simp) h
    · exact halt rfl (by simp) h
    · exact halt rfl (by simp) h
    · have hev := Run.call_events R r dir src dst false
      generalize r.call R dir src dst false = c at h hev
      obtain ⟨r₁, err⟩ := c
      dsimp only at hev
      cases err with
      | none =>
        obtain ⟨sub, h1, h2, h4⟩ := ih _ _ _ _ h
        rw [if_pos rfl] at hev
        exact ⟨(dir, src, dst) :: sub, h1.cons_cons _, (by rw [h2, hev]; simp [moveOf]), fun hs ho => by rw [h4 hs ho]⟩
      | some e =>
        rw [if_neg (by simp)] at hev
        dsimp only at h
        split at h
        · rcases hs with rfl | rfl
          · exact halt hev (by simp) h
          · obtain ⟨sub, h1, h2, _⟩ := ih _ _ _ _ h
            exact ⟨sub, h1.cons _, (by rw [h2, hev]), fun hs => nomatch hs⟩
        · exact halt hev (by simp) h

/-- **C02 (reporting)**: a successful run under the stop strategy has reported exactly the planned
    renames — each file whose generated path differs from its own, once, to exactly that path — and
    no rename used override -/
theorem success_reports_exactly_the_plan (R : Renamer σ) (st : σ) (files : List FileRec) (gen : Nat → Gen)
    (as : List Answer) (r : Run σ) (h : execute R st files gen .stop as = (r, .done)) :
    (r.events.map moveOf).Perm (planned gen 0 files) ∧ ∀ e ∈ r.events, e.override = false := by
  obtain ⟨r₁, bl, h₁, h₂⟩ := execute_done (congrArg Prod.snd h)
  rw [h] at h₂
  obtain ⟨_, a, _⟩ := firstPass_complete R gen files 0 _ _ _ _ h₁
  obtain ⟨sub, _, b, hall⟩ := secondPass_accounts R (.inl rfl) _ _ _ _ _ h₂
  rw [hall rfl rfl] at b
  have hov := execute_events_noOverride R st files gen (as := as) (.inl rfl)
  rw [h] at hov
  refine ⟨?_, hov⟩
  rw [b]
  exact ((List.reverse_perm bl).append_left _).trans (by simpa using a)

/-- a first pass that runs to its end means every file had a usable generated path (no invalid name, no error) -/
theorem success_means_all_generated (R : Renamer σ) (gen : Nat → Gen) :
    ∀ (files : List FileRec) (i : Nat) (r r' : Run σ) (bl bl' : Backlog),
      firstPass R gen i files r bl = (r', bl', none) →
      ∀ k, k < files.length → ∃ p, gen (i + k) = .path p :=
  fun files i r r' bl bl' h => (firstPass_complete R gen files i r r' bl bl' h).1

/-- file `k` is `f`, and the plan renames it to `p` -/
def Chg (files : List FileRec) (gen : Nat → Gen) (k : Nat) (f : FileRec) (p : PurePath) : Prop :=
  files[k]? = some f ∧ gen k = .path p ∧ p ≠ f.rel

theorem Chg.unique {files : List FileRec} {gen : Nat → Gen} {k : Nat} {f f' : FileRec} {p p' : PurePath}
    (h : Chg files gen k f p) (h' : Chg files gen k f' p') : f = f' ∧ p = p' := by
  obtain ⟨h1, h2, _⟩ := h
  obtain ⟨h1', h2', _⟩ := h'
  rw [h1] at h1'; rw [h2] at h2'
  exact ⟨Option.some.inj h1', by injection h2'⟩

/-- the path `b` has been vacated before position `k`: it is the path of an earlier file of the list whose
    generated name differs (so that file has been renamed away by then) -/
def Vacated (files : List FileRec) (gen : Nat → Gen) (k : Nat) (b : APath) : Prop :=
  ∃ (j : Nat) (fj : FileRec) (pj : PurePath), j < k ∧ files[j]? = some fj ∧ gen j = .path pj ∧ pj ≠ fj.rel ∧
    b = absKey fj.inputDir fj.rel

/-- a **free** name-mode plan: every file gets a path; a changed one has the name-mode shape and a
    destination that is free at its turn — it does not exist in the initial tree, or it is the path of an
    earlier file that has been renamed away (an acyclic chain `b → c, a → b` visited from its far end); the
    sources exist and are pairwise different entries; the destinations are pairwise different -/
structure FreePlan (base : FS) (files : List FileRec) (gen : Nat → Gen) : Prop where
  gens : ∀ (k : Nat) (f : FileRec), files[k]? = some f → ∃ p, gen k = .path p ∧
      (p = f.rel ∨ (C05.NameCall base f.inputDir f.rel p ∧
        (lexists base (absKey f.inputDir p) = false ∨ Vacated files gen k (absKey f.inputDir p))))
  srcs : ∀ (k : Nat) (f : FileRec), files[k]? = some f → lexists base (absKey f.inputDir f.rel) = true
  srcDistinct : ∀ (k₁ k₂ : Nat) (f₁ f₂ : FileRec), k₁ < k₂ → files[k₁]? = some f₁ → files[k₂]? = some f₂ →
      absKey f₁.inputDir f₁.rel ≠ absKey f₂.inputDir f₂.rel
  dstDistinct : ∀ (k₁ k₂ : Nat) (f₁ f₂ : FileRec) (p₁ p₂ : PurePath), k₁ < k₂ → files[k₁]? = some f₁ → files[k₂]? = some f₂ →
      gen k₁ = .path p₁ → gen k₂ = .path p₂ → p₁ ≠ f₁.rel → p₂ ≠ f₂.rel →
      absKey f₁.inputDir p₁ ≠ absKey f₂.inputDir p₂

/-- sources and destinations of a plan: the selected entries exist and are pairwise different, and so are the
    destinations of the files that are renamed (what `FreePlan` and `NearPlan` have in common) -/
structure PlanKeys (base : FS) (files : List FileRec) (gen : Nat → Gen) : Prop where
  srcs : ∀ (k : Nat) (f : FileRec), files[k]? = some f → lexists base (absKey f.inputDir f.rel) = true
  srcDistinct : ∀ (k₁ k₂ : Nat) (f₁ f₂ : FileRec), k₁ < k₂ → files[k₁]? = some f₁ → files[k₂]? = some f₂ →
      absKey f₁.inputDir f₁.rel ≠ absKey f₂.inputDir f₂.rel
  dstDistinct : ∀ (k₁ k₂ : Nat) (f₁ f₂ : FileRec) (p₁ p₂ : PurePath), k₁ < k₂ → files[k₁]? = some f₁ → files[k₂]? = some f₂ →
      gen k₁ = .path p₁ → gen k₂ = .path p₂ → p₁ ≠ f₁.rel → p₂ ≠ f₂.rel →
      absKey f₁.inputDir p₁ ≠ absKey f₂.inputDir p₂

variable {base : FS} {files : List FileRec} {gen : Nat → Gen}

theorem PlanKeys.src_ne (h : PlanKeys base files gen) {k₁ k₂ : Nat} {f₁ f₂ : FileRec} (hne : k₁ ≠ k₂)
    (h₁ : files[k₁]? = some f₁) (h₂ : files[k₂]? = some f₂) :
    absKey f₁.inputDir f₁.rel ≠ absKey f₂.inputDir f₂.rel := by
  rcases Nat.lt_or_gt_of_ne hne with hl | hl
  · exact h.srcDistinct k₁ k₂ f₁ f₂ hl h₁ h₂
  · exact fun e => h.srcDistinct k₂ k₁ f₂ f₁ hl h₂ h₁ e.symm

theorem PlanKeys.dst_ne (h : PlanKeys base files gen) {k₁ k₂ : Nat} {f₁ f₂ : FileRec} {p₁ p₂ : PurePath} (hne : k₁ ≠ k₂)
    (h₁ : Chg files gen k₁ f₁ p₁) (h₂ : Chg files gen k₂ f₂ p₂) :
    absKey f₁.inputDir p₁ ≠ absKey f₂.inputDir p₂ := by
  rcases Nat.lt_or_gt_of_ne hne with hl | hl
  · exact h.dstDistinct k₁ k₂ f₁ f₂ p₁ p₂ hl h₁.1 h₂.1 h₁.2.1 h₂.2.1 h₁.2.2 h₂.2.2
  · exact fun e => h.dstDistinct k₂ k₁ f₂ f₁ p₂ p₁ hl h₂.1 h₁.1 h₂.2.1 h₁.2.1 h₂.2.2 h₁.2.2 e.symm

theorem FreePlan.keys (h : FreePlan base files gen) : PlanKeys base files gen := ⟨h.srcs, h.srcDistinct, h.dstDistinct⟩

theorem FreePlan.shape (h : FreePlan base files gen) {k : Nat} {f : FileRec} {p : PurePath} (hc : Chg files gen k f p) :
    C05.NameCall base f.inputDir f.rel p ∧
      (lexists base (absKey f.inputDir p) = false ∨ Vacated files gen k (absKey f.inputDir p)) := by
  obtain ⟨p', hg, hcase⟩ := h.gens k f hc.1
  cases hc.2.1.symm.trans hg
  exact hcase.resolve_left hc.2.2

theorem FreePlan.dst_ne_later_src (h : FreePlan base files gen) {j i : Nat} {fj f : FileRec} {pj : PurePath}
    (hji : j < i) (hc : Chg files gen j fj pj) (hf : files[i]? = some f) :
    absKey fj.inputDir pj ≠ absKey f.inputDir f.rel := by
  intro e
  rcases (h.shape hc).2 with hfd | ⟨l, fl, pl, hl, hfl, _, _, hbl⟩
  · rw [e, h.srcs i f hf] at hfd; cases hfd
  · exact h.keys.src_ne (by omega) hfl hf (hbl.symm.trans e)

/-! ### what one reported rename did -/

/-- **a successful in-place rename moves exactly its source**: on a well-formed link-free tree, a name-mode
    call that succeeds (with or without override) leaves a tree consisting of the source's entry — same
    identity, kind and content — at the destination path, plus every other entry except whatever was at the
    destination, each at its own path.  With `success_reports_exactly_the_plan` this is what "the plan was
    applied" means rename by rename. -/
theorem name_call_effect (s : RealState) (hw : WF s.fs) (hl : LinkFree s.fs) (hfault : s.faultAt = none)
    (dir : APath) (src dst : PurePath) (ov : Bool) (hG : C05.NameCall s.fs dir src dst)
    (hok : (fileRenamer s dir src dst ov).2 = none) :
    ∃ ea, s.fs.find (absKey dir src) = some ea ∧ ea.kind ≠ .dir ∧
      ∀ e', e' ∈ (fileRenamer s dir src dst ov).1.fs ↔
        (e' = { ea with path := absKey dir dst } ∨ (e' ∈ s.fs ∧ e'.path ≠ absKey dir src ∧ e'.path ≠ absKey dir dst)) := by
  have hR := hG.resolved
  rw [hR.fileRenamer_eq hw hl (fun _ => rfl) hfault] at hok ⊢
  split at hok
  · cases hok
  · rw [if_neg ‹_›]
    cases ha : s.fs.find (absKey dir src) with
    | none => rw [ha] at hok; cases hok
    | some ea =>
      have hm := hR.toLeafMove hw (fun _ => rfl) ha
      exact ⟨ea, rfl, hm.leaf, fun e' => hm.mem⟩

/-! ### the plan applied to the initial tree -/

/-- where the first `k` files of the plan send the path `p`: to the generated destination if `p` is the path of
    one of them (and its generated name differs), else nowhere -/
def MovedTo (all : List FileRec) (gen : Nat → Gen) (k : Nat) (p q : APath) : Prop :=
  (∃ (j : Nat) (f : FileRec) (pj : PurePath), j < k ∧ all[j]? = some f ∧ gen j = .path pj ∧ pj ≠ f.rel ∧
      p = absKey f.inputDir f.rel ∧ q = absKey f.inputDir pj) ∨
  ((∀ (j : Nat) (f : FileRec) (pj : PurePath), j < k → all[j]? = some f → gen j = .path pj → pj ≠ f.rel →
      p ≠ absKey f.inputDir f.rel) ∧ q = p)

theorem movedTo_src (h : PlanKeys base files gen) {i k : Nat} {f : FileRec} (hf : files[i]? = some f) (hk : k ≤ i)
    (q : APath) : MovedTo files gen k (absKey f.inputDir f.rel) q ↔ q = absKey f.inputDir f.rel := by
  constructor
  · rintro (⟨j, fj, pj, hj, hfj, _, _, hp, _⟩ | ⟨_, hq⟩)
    · exact absurd hp.symm (h.src_ne (by omega) hfj hf)
    · exact hq
  · rintro rfl
    exact .inr ⟨fun j fj pj hj hfj _ _ e => h.src_ne (by omega) hfj hf e.symm, rfl⟩

theorem movedTo_succ (h : PlanKeys base files gen) {i : Nat} {f : FileRec} {pi : PurePath} (hf : files[i]? = some f)
    (hg : gen i = .path pi) (p q : APath) :
    MovedTo files gen (i + 1) p q ↔
      if pi ≠ f.rel ∧ p = absKey f.inputDir f.rel then q = absKey f.inputDir pi else MovedTo files gen i p q := by
  have hi : ∀ {j fj pj}, j < i + 1 → ¬ j < i → files[j]? = some fj → gen j = .path pj → fj = f ∧ pj = pi := by
    intro j fj pj h1 h2 hfj hgj
    cases (show j = i by omega)
    exact ⟨Option.some.inj (hfj.symm.trans hf), Gen.path.inj (hgj.symm.trans hg)⟩
  split
  · rename_i hc
    obtain ⟨hne, rfl⟩ := hc
    constructor
    · rintro (⟨j, fj, pj, hj, hfj, hgj, _, hp, hq⟩ | ⟨hno, _⟩)
      · by_cases hji : j < i
        · exact absurd hp (h.src_ne (by omega) hf hfj)
        · obtain ⟨rfl, rfl⟩ := hi hj hji hfj hgj
          exact hq
      · exact absurd rfl (hno i f pi (by omega) hf hg hne)
    · rintro rfl
      exact .inl ⟨i, f, pi, by omega, hf, hg, hne, rfl, rfl⟩
  · rename_i hc
    constructor
    · rintro (⟨j, fj, pj, hj, hfj, hgj, hnej, hp, hq⟩ | ⟨hno, hq⟩)
      · by_cases hji : j < i
        · exact .inl ⟨j, fj, pj, hji, hfj, hgj, hnej, hp, hq⟩
        · obtain ⟨rfl, rfl⟩ := hi hj hji hfj hgj
          exact absurd ⟨hnej, hp⟩ hc
      · exact .inr ⟨fun j fj pj hj => hno j fj pj (by omega), hq⟩
    · rintro (⟨j, fj, pj, hj, hrest⟩ | ⟨hno, hq⟩)
      · exact .inl ⟨j, fj, pj, by omega, hrest⟩
      · refine .inr ⟨fun j fj pj hj hfj hgj hnej hp => ?_, hq⟩
        by_cases hji : j < i
        · exact hno j fj pj hji hfj hgj hnej hp
        · obtain ⟨rfl, rfl⟩ := hi hj hji hfj hgj
          exact hc ⟨hnej, hp⟩

/-- the real tree after the first `k` files of a free plan: the initial entries, each with its identity, kind and
    content, at the path the plan sends it to -/
structure RealInv (base : FS) (all : List FileRec) (gen : Nat → Gen) (k : Nat) (s : RealState) : Prop where
  fault : s.faultAt = none
  wf : WF s.fs
  linkFree : LinkFree s.fs
  dirs : ∀ p, isDirAt s.fs p = isDirAt base p
  mem : ∀ e', e' ∈ s.fs ↔ ∃ e ∈ base, ∃ q, MovedTo all gen k e.path q ∧ e' = { e with path := q }

theorem RealInv.skip (hfree : FreePlan base files gen) {i : Nat} {f : FileRec} {s : RealState}
    (hf : files[i]? = some f) (hg : gen i = .path f.rel) (hinv : RealInv base files gen i s) :
    RealInv base files gen (i + 1) s := by
  obtain ⟨h1, h2, h3, h4, hmem⟩ := hinv
  refine ⟨h1, h2, h3, h4, fun e' => ?_⟩
  simp only [hmem, movedTo_succ hfree.keys hf hg, ne_eq, not_true_eq_false, false_and, if_false]

theorem RealInv.step (hwb : WF base) (hfree : FreePlan base files gen) {i : Nat} {f : FileRec} {p : PurePath}
    {s : RealState} (hc : Chg files gen i f p) (hinv : RealInv base files gen i s) :
    (fileRenamer s f.inputDir f.rel p false).2 = none ∧
      RealInv base files gen (i + 1) (fileRenamer s f.inputDir f.rel p false).1 := by
  obtain ⟨hfault, hw, hl, hdirs, hmem⟩ := hinv
  obtain ⟨hf, hg, hne⟩ := hc
  obtain ⟨hG, hfreeDst⟩ := hfree.shape ⟨hf, hg, hne⟩
  have hR := hG.resolved
  have hk := hfree.keys
  -- the source is an initial entry that has not moved
  obtain ⟨e0, he0, hp0⟩ := ((lexists_iff _).mp (hfree.srcs i f hf)).resolve_left (ne_nil_of_not_isDirAt hR.srcLeaf)
  have he0s : e0 ∈ s.fs := (hmem e0).mpr ⟨e0, he0, _, (hp0 ▸ movedTo_src hk hf (Nat.le_refl i) _).mpr rfl, rfl⟩
  have ha : s.fs.find (absKey f.inputDir f.rel) = some e0 := hp0 ▸ nodup_find hw.1 he0s
  -- the destination is taken by nobody: not by an earlier destination, not by an entry that stayed
  have hdst : lexists s.fs (absKey f.inputDir p) = false := by
    rw [Bool.eq_false_iff]
    intro hex
    rcases (lexists_iff _).mp hex with h0 | ⟨e', he', hp'⟩
    · exact ne_nil_of_not_isDirAt hR.dstLeaf h0
    · obtain ⟨e1, he1, q, hm, rfl⟩ := (hmem e').mp he'
      dsimp only at hp'
      subst hp'
      rcases hm with ⟨j, fj, pj, hj, hfj, hgj, hnej, _, hq⟩ | ⟨hno, hq⟩
      · exact hk.dst_ne (by omega) ⟨hfj, hgj, hnej⟩ ⟨hf, hg, hne⟩ hq.symm
      · rcases hfreeDst with hfd | ⟨j, fj, pj, hj, hfj, hgj, hnej, hbj⟩
        · rw [hq, (lexists_iff _).mpr (.inr ⟨e1, he1, rfl⟩)] at hfd
          cases hfd
        · exact hno j fj pj hj hfj hgj hnej (hq ▸ hbj)
  have hm := hR.toLeafMove hw hdirs ha
  rw [hR.fileRenamer_eq hw hl hdirs hfault, if_neg (by simp [hdst]), ha]
  refine ⟨rfl, hfault, hm.wf', linkFree_moved hl _ _, fun q => by rw [← hdirs]; exact hm.isDirAt_eq q, fun e' => ?_⟩
  show e' ∈ moved s.fs _ _ ↔ _
  simp only [hm.mem, hmem, movedTo_succ hk hf hg, hne, ne_eq, not_false_eq_true, true_and]
  constructor
  · rintro (rfl | ⟨⟨e1, he1, q, hmv, rfl⟩, hqa, hqb⟩)
    · exact ⟨e0, he0, _, by rw [if_pos hp0], rfl⟩
    · refine ⟨e1, he1, q, ?_, rfl⟩
      rw [if_neg fun e : e1.path = absKey f.inputDir f.rel =>
        hqa ((movedTo_src hk hf (Nat.le_refl i) q).mp (e ▸ hmv))]
      exact hmv
  · rintro ⟨e1, he1, q, hmv, rfl⟩
    split at hmv
    · rename_i hp1
      left
      rw [hmv, Option.some.inj ((nodup_find hwb.1 he1).symm.trans (hp1 ▸ hp0 ▸ nodup_find hwb.1 he0))]
    · rename_i hp1
      refine .inr ⟨⟨e1, he1, q, hmv, rfl⟩, fun hq => ?_, fun hq => ?_⟩
      · rcases hmv with ⟨j, fj, pj, hj, hfj, hgj, hnej, _, hqj⟩ | ⟨_, hqe⟩
        · exact hfree.dst_ne_later_src hj ⟨hfj, hgj, hnej⟩ hf (hqj ▸ hq)
        · exact hp1 (hqe ▸ hq)
      · have := (lexists_iff _).mpr (.inr ⟨_, (hmem _).mpr ⟨e1, he1, q, hmv, rfl⟩, hq⟩)
        rw [hdst] at this
        cases this

/-- the first pass of a free plan renames every changed file at once; the backlog stays empty -/
theorem real_firstPass_free (hwb : WF base) (all : List FileRec) (hfree : FreePlan base all gen) :
    ∀ (rest : List FileRec) (i : Nat) (r : Run RealState), all.drop i = rest → RealInv base all gen i r.st →
      ∃ r', firstPass realNameRenamer gen i rest r [] = (r', [], none) ∧ RealInv base all gen (i + rest.length) r'.st ∧
        r'.events = r.events ++ (planned gen i rest).map fun m => ⟨m.1, m.2.1, m.2.2, false⟩ := by
  intro rest
  induction rest with
  | nil => intro i r _ h; exact ⟨r, rfl, h, by simp [planned]⟩
  | cons f rest ih =>
    intro i r hdrop hinv
    obtain ⟨hfi, hdrop'⟩ := drop_cons hdrop
    rw [show i + (f :: rest).length = (i + 1) + rest.length by simp; omega]
    obtain ⟨p, hgp, _⟩ := hfree.gens i f hfi
    rw [firstPass, planned_cons gen i f rest p hgp]
    simp only [hgp]
    by_cases hsame : p = f.rel
    · simp only [hsame, if_true, List.nil_append]
      exact ih (i + 1) r hdrop' (hinv.skip hfree hfi (hsame ▸ hgp))
    · have hc : Chg all gen i f p := ⟨hfi, hgp, hsame⟩
      obtain ⟨hok, hinv'⟩ := hinv.step hwb hfree hc
      have hR := (hfree.shape hc).1.resolved
      simp only [hsame, if_false, show realNameRenamer.view r.st = r.st.fs from rfl, hR.contained_eq hinv.linkFree,
        Run.call_eq, show realNameRenamer.call = fileRenamer from rfl, hok]
      obtain ⟨r', h1, h2, h3⟩ := ih (i + 1) ⟨(fileRenamer r.st f.inputDir f.rel p false).1, _, _⟩ hdrop' hinv'
      exact ⟨r', h1, h2, by rw [h3]; simp⟩

/-- … so the real run of a free plan ends in the first pass, whatever the strategy and the answers -/
theorem free_plan_run (hw : WF base) (hl : LinkFree base) (hfree : FreePlan base files gen) (strategy : Strategy)
    (answers : List Answer) :
    ∃ r', execute realNameRenamer { fs := base } files gen strategy answers = (r', .done) ∧
      RealInv base files gen files.length r'.st ∧ r'.events.map moveOf = planned gen 0 files ∧
      ∀ e ∈ r'.events, e.override = false := by
  have hinv0 : RealInv base files gen 0 ({ fs := base } : RealState) := by
    refine ⟨rfl, hw, hl, fun _ => rfl, fun e' => ⟨fun he' => ⟨e', he', _, .inr ⟨fun j _ _ hj => absurd hj (Nat.not_lt_zero j), rfl⟩, rfl⟩, ?_⟩⟩
    rintro ⟨e, he, q, ⟨j, _, _, hj, _⟩ | ⟨_, rfl⟩, rfl⟩
    · cases hj
    · exact he
  obtain ⟨r', h1, hinv, hev⟩ := real_firstPass_free hw files hfree files 0 { st := { fs := base } } (by simp) hinv0
  refine ⟨r', (by simp [execute, h1, secondPass]), (by simpa using hinv), ?_, ?_⟩ <;> rw [hev]
  · simp [moveOf, Function.comp_def]
  · rintro e he
    obtain ⟨m, _, rfl⟩ := List.mem_map.mp ((List.mem_append.mp he).resolve_left (nomatch ·))
    rfl

/-- **C02 (free plans succeed, name mode)**: on a link-free tree, a free plan — whatever the file list,
    the processing order, the strategy and the scripted stop/ignore/override answers — ends successfully in the
    REAL run, which reports exactly the planned renames in processing order, none with override -/
theorem free_plan_succeeds_name_mode (base : FS) (hw : WF base) (hl : LinkFree base)
    (files : List FileRec) (gen : Nat → Gen) (strategy : Strategy) (answers : List Answer)
    (hfree : FreePlan base files gen) (hnocustom : ∀ q, Answer.custom q ∉ answers) :
    (execute realNameRenamer { fs := base } files gen strategy answers).2 = .done ∧
    (execute realNameRenamer { fs := base } files gen strategy answers).1.events.map moveOf = planned gen 0 files ∧
    ∀ e ∈ (execute realNameRenamer { fs := base } files gen strategy answers).1.events, e.override = false := by
  obtain ⟨r', hex, _, hev, hov⟩ := free_plan_run hw hl hfree strategy answers
  rw [hex]
  exact ⟨rfl, hev, hov⟩

/-- **C02 (the plan applied, name mode)**: on a well-formed link-free tree, the real run of a free plan — any
    file list, processing order, strategy — ends successfully, and the final tree consists exactly of the
    initial entries, each with its identity, kind and content, the selected ones at the paths generated for
    them and every other one where it was.  Nothing is added, nothing is lost, nothing else moves. -/
theorem free_plan_applied_name_mode (base : FS) (hw : WF base) (hl : LinkFree base)
    (files : List FileRec) (gen : Nat → Gen) (strategy : Strategy) (answers : List Answer)
    (hfree : FreePlan base files gen) :
    (execute realNameRenamer { fs := base } files gen strategy answers).2 = .done ∧
    ∀ e', e' ∈ (execute realNameRenamer { fs := base } files gen strategy answers).1.st.fs ↔
      ∃ e ∈ base, ∃ q, MovedTo files gen files.length e.path q ∧ e' = { e with path := q } := by
  obtain ⟨r', hex, hinv, _⟩ := free_plan_run hw hl hfree strategy answers
  rw [hex]
  exact ⟨rfl, hinv.mem⟩

/-- **name mode keeps every entry in its directory** (C06, at the level of a whole run): after the real run of a
    free plan every entry of the final tree is an initial entry — same identity, kind and content — whose path
    differs from its initial path at most in the last component. -/
theorem free_plan_keeps_parents (base : FS) (hw : WF base) (hl : LinkFree base)
    (files : List FileRec) (gen : Nat → Gen) (strategy : Strategy) (answers : List Answer)
    (hfree : FreePlan base files gen) :
    ∀ e' ∈ (execute realNameRenamer { fs := base } files gen strategy answers).1.st.fs,
      ∃ e ∈ base, e'.id = e.id ∧ e'.kind = e.kind ∧ e'.content = e.content ∧ e'.path.dropLast = e.path.dropLast := by
  intro e' he'
  obtain ⟨e, he, q, hm, rfl⟩ := ((free_plan_applied_name_mode base hw hl files gen strategy answers hfree).2 e').mp he'
  refine ⟨e, he, rfl, rfl, rfl, ?_⟩
  rcases hm with ⟨j, fj, pj, _, hfj, hgj, hnej, hp, hq⟩ | ⟨_, hq⟩
  · rw [hq, hp]
    exact (hfree.shape ⟨hfj, hgj, hnej⟩).1.resolved.sibling.symm
  · rw [hq]

theorem planKeys_pair {base : FS} {f₀ f₁ : FileRec} {gen : Nat → Gen} (p₀ p₁ : PurePath) (hg₀ : gen 0 = .path p₀)
    (hg₁ : gen 1 = .path p₁) (hs₀ : lexists base (absKey f₀.inputDir f₀.rel) = true)
    (hs₁ : lexists base (absKey f₁.inputDir f₁.rel) = true)
    (hsrc : absKey f₀.inputDir f₀.rel ≠ absKey f₁.inputDir f₁.rel) (hdst : absKey f₀.inputDir p₀ ≠ absKey f₁.inputDir p₁) :
    PlanKeys base [f₀, f₁] gen := by
  refine ⟨fun k f hf => ?_, fun k₁ k₂ f₁' f₂' hlt h₁ h₂ => ?_, fun k₁ k₂ f₁' f₂' q₁ q₂ hlt h₁ h₂ g₁ g₂ _ _ => ?_⟩
  · rcases getElem?_pair hf with ⟨rfl, rfl⟩ | ⟨rfl, rfl⟩
    · exact hs₀
    · exact hs₁
  · obtain ⟨rfl, rfl, rfl, rfl⟩ := lt_getElem?_pair hlt h₁ h₂
    exact hsrc
  · obtain ⟨rfl, rfl, rfl, rfl⟩ := lt_getElem?_pair hlt h₁ h₂
    cases hg₀.symm.trans g₁
    cases hg₁.symm.trans g₂
    exact hdst

/-- the hypotheses are satisfiable: `in/a → x`, `in/b → y` is a free plan on the tree `in/{a, b}` -/
example :
    let base : FS := [⟨["in".toList], 1, .dir, 0⟩, ⟨["in".toList, "a".toList], 2, .file, 1⟩,
                      ⟨["in".toList, "b".toList], 3, .file, 2⟩]
    let files : List FileRec := [⟨["in".toList], ⟨false, ["a".toList]⟩⟩, ⟨["in".toList], ⟨false, ["b".toList]⟩⟩]
    let gen : Nat → Gen := fun i => if i = 0 then .path ⟨false, ["x".toList]⟩ else .path ⟨false, ["y".toList]⟩
    FreePlan base files gen := by
  intro base files gen
  have hk : PlanKeys base files gen :=
    planKeys_pair _ _ rfl rfl (by decide) (by decide) (by decide) (by decide)
  refine ⟨fun k f hf => ?_, hk.srcs, hk.srcDistinct, hk.dstDistinct⟩
  rcases getElem?_pair hf with ⟨rfl, rfl⟩ | ⟨rfl, rfl⟩
  · exact ⟨_, rfl, .inr ⟨.top (by decide), .inl (by decide)⟩⟩
  · exact ⟨_, rfl, .inr ⟨.top (by decide), .inl (by decide)⟩⟩

/-- … and so is the chain `b → c`, `a → b` visited from its far end: the second destination is the path the first
    file has vacated -/
example :
    let base : FS := [⟨["in".toList], 1, .dir, 0⟩, ⟨["in".toList, "a".toList], 2, .file, 1⟩,
                      ⟨["in".toList, "b".toList], 3, .file, 2⟩]
    let files : List FileRec := [⟨["in".toList], ⟨false, ["b".toList]⟩⟩, ⟨["in".toList], ⟨false, ["a".toList]⟩⟩]
    let gen : Nat → Gen := fun i => if i = 0 then .path ⟨false, ["c".toList]⟩ else .path ⟨false, ["b".toList]⟩
    FreePlan base files gen := by
  intro base files gen
  have hk : PlanKeys base files gen :=
    planKeys_pair _ _ rfl rfl (by decide) (by decide) (by decide) (by decide)
  refine ⟨fun k f hf => ?_, hk.srcs, hk.srcDistinct, hk.dstDistinct⟩
  rcases getElem?_pair hf with ⟨rfl, rfl⟩ | ⟨rfl, rfl⟩
  · exact ⟨_, rfl, .inr ⟨.top (by decide), .inl (by decide)⟩⟩
  · exact ⟨_, rfl, .inr ⟨.top (by decide),
      .inr ⟨0, _, _, by decide, rfl, rfl, by decide, by decide⟩⟩⟩

end C02
end Tempren

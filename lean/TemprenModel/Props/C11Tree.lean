import TemprenModel.Props.C11
import TemprenModel.Props.C10Tree
/-!
# C11 — the pipe spelling and the nested spelling, for arbitrary patterns and tag lists

`pipe_tokens`: the parser turns the token sequence of `X|%A(..)|%B(..)` into `nest X [A, B]`;
`pipe_eq_nested_tree`: on the template text, `X|%A(..)|%B(..)` and `%B(..){%A(..){X}}` parse to one and the same
tree, for every printable pattern `X` (several elements, nested contexts) and every list of tags with arguments.
-/
namespace Tempren
namespace C11
open C10

/-- a tag written without a context of its own (the only thing that may follow a pipe) -/
def BareTag (e : Elem) : Prop := ∃ c n a k, e = .tag c n a k none

def tokPiped (st : Style) (tags : List Elem) : List Tok := tags.flatMap (fun t => .pipe :: tokElem st t)

theorem tokPiped_cons (st : Style) (e : Elem) (more : List Elem) (rest : List Tok) :
    tokPiped st (e :: more) ++ rest = .pipe :: (tokElem st e ++ (tokPiped st more ++ rest)) := by
  simp [tokPiped]

theorem parsePipes_tok (st : Style) (hst : StyleOk st) : ∀ (tags : List Elem), tags ≠ [] →
    (∀ t ∈ tags, BareTag t ∧ WFElem t) → ∀ (fuel : Nat) (rest : List Tok), StopOk rest →
      (tokPiped st tags).length + 1 ≤ fuel → parsePipes fuel (tokPiped st tags ++ rest) = some (tags, rest) := by
  intro tags
  induction tags with
  | nil => intro h; exact absurd rfl h
  | cons e more ih =>
    intro _ hok fuel rest hs hf
    obtain ⟨⟨c, n, a, k, rfl⟩, hwf⟩ := hok _ (List.mem_cons_self)
    simp only [tokPiped, List.flatMap_cons, List.length_cons, List.length_append] at hf
    obtain ⟨f, rfl⟩ := Nat.exists_eq_add_of_le' (Nat.le_of_add_left_le hf)
    have hr : (tokPiped st more ++ rest).head? ≠ some .ctxStart := by
      cases more with
      | nil => rcases hs with rfl | ⟨t, rfl⟩ <;> simp [tokPiped]
      | cons e2 more2 => simp [tokPiped_cons]
    have ht := parseTag_tok st hst c n a k none hwf (fun _ h => nomatch h) f (tokPiped st more ++ rest) hr (by omega)
    rw [tokPiped_cons, parsePipes]
    simp only [ht]
    cases more with
    | nil => rcases hs with rfl | ⟨t, rfl⟩ <;> rfl
    | cons e2 more2 =>
      have hrec := ih (by simp) (fun t ht => hok t (by simp [ht])) f rest hs (by simp only [tokPiped]; omega)
      rw [tokPiped_cons] at hrec ⊢
      simp only [hrec, Option.map]

theorem parsePattern_of_pipes (f : Nat) (ts : List Tok) (es tags : List Elem) (t rest : List Tok)
    (he : parseElems f ts = some (es, .pipe :: t)) (hp : parsePipes f (.pipe :: t) = some (tags, rest)) :
    parsePattern (f + 1) ts = some (pipeFold (Pat.ofList es) tags, rest) := by
  simp [parsePattern, he, hp]

/-- **the pipe list, token level**: the parser turns `X | A | B …` into the nested tree, whatever the pattern `X`
    (several elements, contexts inside) and however many tags follow -/
theorem pipe_tokens (st : Style) (hst : StyleOk st) (x : Pat) (hx : WFPat x) (tags : List Elem) (hne : tags ≠ [])
    (hok : ∀ t ∈ tags, BareTag t ∧ WFElem t) :
    parseTokens (tokPat st x ++ tokPiped st tags) = some (nest x tags) := by
  obtain ⟨e, more, rfl⟩ := List.exists_cons_of_ne_nil hne
  have hlen : (tokPat st x ++ tokPiped st (e :: more)).length = _ := List.length_append
  have he := parseElems_tok st hst x hx (2 * (tokPat st x ++ tokPiped st (e :: more)).length + 1) _
    (Or.inr ⟨_, tokPiped_cons st e more []⟩) (by omega)
  have hp := parsePipes_tok st hst _ hne hok (2 * (tokPat st x ++ tokPiped st (e :: more)).length + 1) []
    (Or.inl rfl) (by omega)
  rw [tokPiped_cons] at he hp
  have := parsePattern_of_pipes _ _ _ _ _ _ he hp
  rw [← tokPiped_cons, List.append_nil] at this
  simp only [parseTokens, this, ofList_toList, pipeFold_eq_nest]

/-- the pipe list alone is what `printPiped` writes behind the empty pattern -/
theorem lexPiped (st : Style) (hst : StyleOkL st) {rest : List Char} {ts : List Tok} (h : lexAll .D rest = some ts) :
    ∀ (tags : List Elem), (∀ t ∈ tags, BareTag t ∧ PrElem t) →
      lexAll .D (printPiped st .nil tags ++ rest) = some (tokPiped st tags ++ ts)
  | [], _ => h
  | t :: more, hok => by
    obtain ⟨⟨c, n, a, k, rfl⟩, hpr⟩ := hok _ List.mem_cons_self
    have ih := lexPiped st hst h more (fun u hu => hok u (by simp [hu]))
    simpa [printPiped, printPat, tokPiped] using
      lexAll_D_pipe (lexTag st hst c n a k none hpr (fun _ h => nomatch h) ih)

theorem lex_piped (st : Style) (hst : StyleOkL st) (x : Pat) (hx : PrPat x) (tags : List Elem) (hne : tags ≠ [])
    (hok : ∀ t ∈ tags, BareTag t ∧ PrElem t) :
    lex (printPiped st x tags) = some (tokPat st x ++ tokPiped st tags) := by
  have hstop : StopC (printPiped st .nil tags ++ []) := by
    obtain ⟨t, more, rfl⟩ := List.exists_cons_of_ne_nil hne
    obtain ⟨c, n, a, k, rfl⟩ := (hok _ List.mem_cons_self).1
    simp [StopC, printPiped, printPat]
  simpa [lex_eq_lexAll, printPiped, printPat] using
    lexPat st hst x hx _ _ hstop (lexPiped st hst (lexAll_nil .D) tags hok)

/-- **C11 on the template text, for arbitrary patterns and tag lists**: `X|%A(..)|%B(..)` parses to the tree
    `%B(..){%A(..){X}}` — `X` any printable pattern (several elements, nested contexts, arguments), the tags any
    non-empty list of tags written without a context of their own, in every printing style -/
theorem pipe_parses_to_nest (st : Style) (hst : StyleOkL st) (x : Pat) (hx : PrPat x) (hxw : WFPat x)
    (tags : List Elem) (hne : tags ≠ []) (hok : ∀ t ∈ tags, BareTag t ∧ PrElem t ∧ WFElem t) :
    parseTemplate (printPiped st x tags) = some (nest x tags) := by
  unfold parseTemplate
  rw [lex_piped st hst x hx tags hne (fun t ht => ⟨(hok t ht).1, (hok t ht).2.1⟩)]
  exact pipe_tokens st (styleOk_of_L st hst) x hxw tags hne (fun t ht => ⟨(hok t ht).1, (hok t ht).2.2⟩)

theorem nest_printable : ∀ (tags : List Elem) (x : Pat), PrPat x → WFPat x →
    (∀ t ∈ tags, BareTag t ∧ PrElem t ∧ WFElem t) → PrPat (nest x tags) ∧ WFPat (nest x tags) := by
  intro tags
  induction tags with
  | nil => intro x hx hxw _; exact ⟨hx, hxw⟩
  | cons t more ih =>
    intro x hx hxw hok
    obtain ⟨⟨c, n, a, k, rfl⟩, hpr, hwf⟩ := hok t (List.mem_cons_self)
    simp only [PrElem] at hpr
    simp only [WFElem] at hwf
    simp only [nest]
    apply ih _ _ _ (fun u hu => hok u (by simp [hu]))
    · simp only [PrPat, PrElem]
      exact ⟨⟨hpr.1, hpr.2.1, hpr.2.2.1, hx⟩, trivial, trivial⟩
    · simp only [WFPat, WFElem]
      exact ⟨⟨hwf.1, hwf.2.1, hwf.2.2.1, hxw⟩, trivial⟩

/-- **C11**: the two spellings are one template — `X|%A(..)|%B(..)` (in any style `st`) and `%B(..){%A(..){X}}`
    (in any style `st'`) parse to the same tree, namely `nest X [A, B]` -/
theorem pipe_eq_nested_tree (st st' : Style) (hst : StyleOkL st) (hst' : StyleOkL st') (x : Pat) (hx : PrPat x)
    (hxw : WFPat x) (tags : List Elem) (hne : tags ≠ []) (hok : ∀ t ∈ tags, BareTag t ∧ PrElem t ∧ WFElem t) :
    parseTemplate (printPiped st x tags) = parseTemplate (printPat st' (nest x tags)) ∧
    parseTemplate (printPiped st x tags) = some (nest x tags) := by
  have h1 := pipe_parses_to_nest st hst x hx hxw tags hne hok
  obtain ⟨hp, hw⟩ := nest_printable tags x hx hxw hok
  exact ⟨by rw [h1, parse_print st' hst' _ hp hw], h1⟩

/-- **`x|%T()` and `%T(){x}` are the same template**, for every raw text `x` the grammar can carry (non-empty,
    no `%`, no TAB/LF/CR, not ending in a backslash): both spellings go through the model of the whole front
    end and yield the one tree in which the tag's context is exactly `x` -/
theorem pipe_eq_nested_text (s : List Char) (hne : s ≠ []) (hok : C10.TextOk s) (hlast : s.getLast? ≠ some '\\') :
    parseTemplate (escText s ++ "|%T()".toList) =
      some (.cons (.tag none "T".toList [] [] (some (.cons (.raw s) .nil))) .nil) ∧
    parseTemplate ("%T(){".toList ++ escText s ++ "}".toList) =
      some (.cons (.tag none "T".toList [] [] (some (.cons (.raw s) .nil))) .nil) := by
  have hst := styleOkL_quote '"' (Or.inr rfl)
  have hx : PrPat (.cons (.raw s) .nil) ∧ WFPat (.cons (.raw s) .nil) := by
    simp [PrPat, PrElem, NotRawHead, WFPat, WFElem, hne, hok, hlast]
  have ht : ∀ t ∈ [Elem.tag none "T".toList [] [] none], BareTag t ∧ PrElem t ∧ WFElem t := by
    have hid : IdOk ['T'] := ⟨'T', [], rfl, by decide, rfl⟩
    simp [BareTag, PrElem, WFElem, argsOf, hid]
  have h := pipe_eq_nested_tree _ _ hst hst _ hx.1 hx.2 _ (by simp) ht
  simpa [printPiped, printPat, printElem, nest, joinArgs] using And.intro h.2 (h.1.symm.trans h.2)

/-- Non-vacuity: the example tree of C10 piped through two tags with arguments. -/
def exTags : List Elem :=
  [.tag none "Upper".toList [] [] none,
   .tag (some "Core".toList) "Trim".toList [.int 3] [("left".toList, .bool true)] none]

theorem exTags_ok : ∀ t ∈ exTags, BareTag t ∧ PrElem t ∧ WFElem t := by
  unfold exTags
  repeat rw [String.toList_ofList]
  simp only [List.mem_cons, List.not_mem_nil, or_false, forall_eq_or_imp, forall_eq, PrElem, WFElem, argsOf, ArgOkL,
    ValOkL, idOk_cons, List.map_cons, List.map_nil, List.cons_append, List.nil_append,
    Option.some.injEq, forall_eq', reduceCtorEq, false_imp_iff, implies_true, and_true, true_and]
  exact ⟨⟨⟨_, _, _, _, rfl⟩, by decide⟩, ⟨_, _, _, _, rfl⟩, by decide +kernel, valOk_small 3 (by decide), valOk_bool _,
    by decide⟩

example : parseTemplate (printPiped exStyle exTree exTags) = parseTemplate (printPat Style.default (nest exTree exTags)) :=
  (pipe_eq_nested_tree exStyle Style.default ⟨Or.inl rfl, Or.inl rfl, fun _ => Or.inl rfl⟩
    ⟨Or.inr rfl, Or.inr rfl, fun _ => Or.inr rfl⟩ exTree exTree_pr exTree_wf exTags (by simp [exTags]) exTags_ok).1

end C11
end Tempren

import TemprenModel.Props.C05Report
import TemprenModel.Props.C02
/-!
# C03 (ignore) — "… every file left at its original path had a conflicting destination"

For **any** plan (free, colliding, chained, cyclic — any number of files), name mode: if a run ends successfully and a
file whose generated name differs from its own was *not* renamed, then at the moment it was tried its destination was
taken — by an entry of the initial tree or by a file an earlier reported rename had put there — or its source had already
been renamed away by another reported rename (one entry designated twice).  Contrapositive: a file whose destination is
free (not in the initial tree, nobody renamed onto it) **is** renamed.

Two generic pipeline facts, for every renamer: a successful run has called the renamer for every file whose generated path
differs (`done_calls_all`), and calls are only ever appended.  One invariant of the specification renamer of `C05Report`
(`CallInv`: its state is the report applied, and every call so far is `Explained` — it produced its event or met a taken
destination / missing source / other directory, all stated over the monotone report), transferred through both
simulations.
-/
namespace Tempren
namespace C03
open C05
variable {σ : Type}

/-- **a successful run has tried every file whose generated path differs** (any renamer, strategy, answers) -/
theorem done_calls_all (R : Renamer σ) (st : σ) (files : List FileRec) (gen : Nat → Gen) (s : Strategy)
    (as : List Answer) (h : (execute R st files gen s as).2 = .done)
    (k : Nat) (f : FileRec) (p : PurePath) (hf : files[k]? = some f) (hg : gen k = .path p) (hne : p ≠ f.rel) :
    (f.inputDir, f.rel, p, false) ∈ (execute R st files gen s as).1.calls := by
  obtain ⟨r₁, bl, h₁, h₂⟩ := C02.execute_done h
  have hin := (C02.firstPass_complete R gen files 0 _ _ _ _ h₁).2.2.2 _
    (C02.mem_planned.mpr ⟨k, f, p, hf, by simpa using hg, hne, rfl⟩)
  have := secondPass_induct R (fun r => (f.inputDir, f.rel, p, false) ∈ r.calls) s bl.reverse r₁ as
    (fun r dir src dst ov h _ _ => by rw [Run.call_calls]; exact List.mem_append_left _ h) hin
  rwa [h₂] at this

/-! ### the specification renamer: why a call did not produce its event -/

/-- the destination of the call is taken, as far as the report shows: an initial entry, or somebody was renamed onto it -/
def DstTaken (base : FS) (evs : List Event) (dir : APath) (dst : PurePath) : Prop :=
  lexists base (absKey dir dst) = true ∨ ∃ e ∈ evs, absKey e.dir e.dst = absKey dir dst

/-- the source of the call is gone, as far as the report shows: never there, or renamed away -/
def SrcGone (base : FS) (evs : List Event) (dir : APath) (src : PurePath) : Prop :=
  lexists base (absKey dir src) = false ∨ ∃ e ∈ evs, absKey e.dir e.src = absKey dir src

/-- why a call without override is no puzzle: it produced its event, or met a taken destination, another directory or a
    missing source — all stated over the report, which only grows, so they stay true -/
def Explained (base : FS) (evs : List Event) (c : APath × PurePath × PurePath × Bool) : Prop :=
  (∃ e ∈ evs, e.dir = c.1 ∧ e.src = c.2.1 ∧ e.dst = c.2.2.1) ∨
  DstTaken base evs c.1 c.2.2.1 ∨ parentOf c.2.1 ≠ parentOf c.2.2.1 ∨ SrcGone base evs c.1 c.2.1

theorem Explained.mono {base : FS} {evs : List Event} {c : APath × PurePath × PurePath × Bool} (e : Event)
    (h : Explained base evs c) : Explained base (evs ++ [e]) c := by
  have lift : ∀ {P : Event → Prop}, (∃ e' ∈ evs, P e') → ∃ e' ∈ evs ++ [e], P e' :=
    fun ⟨e', he', hp⟩ => ⟨e', List.mem_append_left _ he', hp⟩
  exact h.imp lift (.imp (.imp id lift) (.imp id (.imp id lift)))

def CallInv (base : FS) (r : Run SpecState) : Prop :=
  r.st.occ = applyReport base r.events ∧ ∀ c ∈ r.calls, c.2.2.2 = false → Explained base r.events c

theorem callInv_call (base : FS) (r : Run SpecState) (dir : APath) (src dst : PurePath) (ov : Bool)
    (h : CallInv base r) : CallInv base (r.call specRenamer dir src dst ov).1 := by
  obtain ⟨hocc, hcalls⟩ := h
  obtain ⟨hc, hcase⟩ := spec_run_call r dir src dst ov
  unfold CallInv
  rw [hc]
  rcases hcase with ⟨hev, ho, _, _⟩ | ⟨hev, hst, hwhy⟩
  · rw [hev, ho, applyReport_snoc, ← hocc]
    refine ⟨rfl, fun c hc hov => ?_⟩
    rcases List.mem_append.mp hc with hc | hc
    · exact (hcalls c hc hov).mono _
    · rw [List.mem_singleton.mp hc]
      exact .inl ⟨⟨dir, src, dst, ov⟩, by simp, rfl, rfl, rfl⟩
  · rw [hev, hst]
    refine ⟨hocc, fun c hc hov => ?_⟩
    rcases List.mem_append.mp hc with hc | hc
    · exact hcalls c hc hov
    · rw [List.mem_singleton.mp hc]
      rw [hocc] at hwhy
      rcases hwhy with ⟨h, _⟩ | h | h
      · exact .inr (.inl ((applyReport_cases base _ _).1 h))
      · exact .inr (.inr (.inl h))
      · exact .inr (.inr (.inr ((applyReport_cases base _ _).2 h)))

/-- **C03, ignore (and every other strategy): an unrenamed file had a conflict.**  Name mode, link-free tree, any plan,
    order, strategy and answers of name-mode shape.  If the run ends successfully, then for every file whose generated name
    differs from its own: it was renamed exactly as planned (there is a reported rename `src → dst` for it), or its
    destination was taken — an entry of the initial tree, or the destination of a reported rename — or its source was
    renamed away by a reported rename. -/
theorem unrenamed_had_conflict (base : FS) (hw : WF base) (hl : LinkFree base)
    (files : List FileRec) (gen : Nat → Gen) (strategy : Strategy) (answers : List Answer)
    (hplan : ∀ k f, files[k]? = some f → ∀ p, gen k = .path p → p ≠ f.rel → NameCall base f.inputDir f.rel p)
    (hcust : ∀ f ∈ files, ∀ q, Answer.custom q ∈ answers → NameCall base f.inputDir f.rel q)
    (hsrc : ∀ (k : Nat) (f : FileRec), files[k]? = some f → lexists base (absKey f.inputDir f.rel) = true)
    (hdone : (execute realNameRenamer { fs := base } files gen strategy answers).2 = .done)
    (k : Nat) (f : FileRec) (p : PurePath) (hf : files[k]? = some f) (hg : gen k = .path p) (hne : p ≠ f.rel) :
    let evs := (execute realNameRenamer { fs := base } files gen strategy answers).1.events
    (∃ e ∈ evs, e.dir = f.inputDir ∧ e.src = f.rel ∧ e.dst = p) ∨
    DstTaken base evs f.inputDir p ∨
    (∃ e ∈ evs, absKey e.dir e.src = absKey f.inputDir f.rel) := by
  intro evs
  obtain ⟨hrd, hds, hout, _⟩ := name_mode_runs base hw hl files gen strategy answers hplan hcust
  have hinv := execute_induct specRenamer (CallInv base)
    { base := base, occ := lexists base } files gen strategy answers
    (fun r dir src dst ov h _ _ => callInv_call base r dir src dst ov h) ⟨rfl, fun c hc => nomatch hc⟩
  have hcall := done_calls_all specRenamer { base := base, occ := lexists base } files gen strategy answers
    (hout ▸ hdone) k f p hf hg hne
  have hevs : evs = (execute specRenamer { base := base, occ := lexists base } files gen strategy answers).1.events :=
    hrd.trans hds
  rw [hevs]
  rcases hinv.2 _ hcall rfl with h | h | h | h | h
  · exact .inl h
  · exact .inr (.inl h)
  · exact absurd (hplan k f hf p hg hne).resolved.parent h
  · rw [hsrc k f hf] at h; cases h
  · exact .inr (.inr h)

/-- the contrapositive the property states for `ignore`: **a file whose destination is free is renamed** — free:
    absent from the initial tree, and no other reported rename went there (`hnobody`) or took the file's source away
    (`hnotwice`) -/
theorem free_destination_is_renamed (base : FS) (hw : WF base) (hl : LinkFree base)
    (files : List FileRec) (gen : Nat → Gen) (strategy : Strategy) (answers : List Answer)
    (hplan : ∀ k f, files[k]? = some f → ∀ p, gen k = .path p → p ≠ f.rel → NameCall base f.inputDir f.rel p)
    (hcust : ∀ f ∈ files, ∀ q, Answer.custom q ∈ answers → NameCall base f.inputDir f.rel q)
    (hsrc : ∀ (k : Nat) (f : FileRec), files[k]? = some f → lexists base (absKey f.inputDir f.rel) = true)
    (hdone : (execute realNameRenamer { fs := base } files gen strategy answers).2 = .done)
    (k : Nat) (f : FileRec) (p : PurePath) (hf : files[k]? = some f) (hg : gen k = .path p) (hne : p ≠ f.rel)
    (hfree : lexists base (absKey f.inputDir p) = false)
    (hnobody : ∀ e ∈ (execute realNameRenamer { fs := base } files gen strategy answers).1.events,
      absKey e.dir e.dst = absKey f.inputDir p → e.dir = f.inputDir ∧ e.src = f.rel ∧ e.dst = p)
    (hnotwice : ∀ e ∈ (execute realNameRenamer { fs := base } files gen strategy answers).1.events,
      absKey e.dir e.src = absKey f.inputDir f.rel → e.dir = f.inputDir ∧ e.src = f.rel ∧ e.dst = p) :
    ∃ e ∈ (execute realNameRenamer { fs := base } files gen strategy answers).1.events,
      e.dir = f.inputDir ∧ e.src = f.rel ∧ e.dst = p := by
  rcases unrenamed_had_conflict base hw hl files gen strategy answers hplan hcust hsrc hdone k f p hf hg hne with h | h | h
  · exact h
  · rcases h with h | ⟨e, he, hx⟩
    · rw [hfree] at h; cases h
    · exact ⟨e, he, hnobody e he hx⟩
  · obtain ⟨e, he, hx⟩ := h
    exact ⟨e, he, hnotwice e he hx⟩

/-- the disjuncts are meaningful: on the tree `in/{a, b}` with the report `[a → c]`, the destination `b` is taken by an
    initial entry, `c` by a reported rename, and `x` by neither -/
example :
    let base : FS := [⟨["in".toList], 1, .dir, 0⟩, ⟨["in".toList, "a".toList], 2, .file, 1⟩,
                      ⟨["in".toList, "b".toList], 3, .file, 2⟩]
    let evs : List Event := [⟨["in".toList], ⟨false, ["a".toList]⟩, ⟨false, ["c".toList]⟩, false⟩]
    DstTaken base evs ["in".toList] ⟨false, ["b".toList]⟩ ∧ DstTaken base evs ["in".toList] ⟨false, ["c".toList]⟩ ∧
    ¬ DstTaken base evs ["in".toList] ⟨false, ["x".toList]⟩ := by
  intro base evs
  refine ⟨Or.inl (by decide), Or.inr ⟨_, List.mem_singleton.mpr rfl, by decide⟩, ?_⟩
  rintro (h | ⟨e, he, hx⟩)
  · revert h; decide
  · rw [List.mem_singleton.mp he] at hx; revert hx; decide

end C03
end Tempren

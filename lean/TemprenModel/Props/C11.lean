import TemprenModel.Model.Printer
/-!
# C11 — Pipe lists are exactly nested contexts
-/
namespace Tempren
namespace C11

/-- the visitor's fold over a pipe list builds exactly the nested-context tree:
    `X|%A|%B` ↦ `%B{%A{X}}`, for every X and every number of piped tags -/
theorem pipeFold_eq_nest (x : Pat) (tags : List Elem) : pipeFold x tags = nest x tags := by
  induction tags generalizing x with
  | nil => rfl
  | cons t rest ih =>
    cases t with
    | raw s => simp only [pipeFold, nest]; exact ih x
    | tag c n a k ctx => simp only [pipeFold, nest]; exact ih _

/-- each piped tag ends up with everything written before it as its only context -/
theorem pipeFold_snoc (x : Pat) (tags : List Elem) (c : Option (List Char)) (n : List Char)
    (a : List ArgVal) (k : List (List Char × ArgVal)) (own : Option Pat) :
    pipeFold x (tags ++ [.tag c n a k own]) = .cons (.tag c n a k (some (pipeFold x tags))) .nil := by
  induction tags generalizing x with
  | nil => rfl
  | cons t rest ih =>
    cases t with
    | raw s => simp only [List.cons_append, pipeFold]; exact ih x
    | tag c' n' a' k' ctx' => simp only [List.cons_append, pipeFold]; exact ih _

/-- a pipe must be followed by a tag: anything else makes the pipe list unparsable -/
theorem pipe_nontag_rejected (fuel : Nat) (t : List Tok) (h : t.head? ≠ some .tagStart) :
    parsePipes fuel (.pipe :: t) = none := by
  cases fuel with
  | zero => rfl
  | succ f =>
    simp only [parsePipes]
    have : parseTag f t = none := by
      cases f with
      | zero => rfl
      | succ g =>
        unfold parseTag
        split
        · simp at h
        · simp at h
        · rfl
    simp [this]

/-- …hence the whole pattern is rejected, at top level and inside any context -/
theorem pattern_pipe_nontag_rejected (fuel : Nat) (ts : List Tok) (elems : List Elem) (t : List Tok)
    (he : parseElems fuel ts = some (elems, .pipe :: t)) (h : t.head? ≠ some .tagStart) :
    parsePattern (fuel + 1) ts = none := by
  simp only [parsePattern, he]
  rw [pipe_nontag_rejected fuel t h]; rfl

/-- Non-vacuity (token level, small fuel so that the kernel can evaluate it). -/
example : parsePipes 6 [.pipe, .tagStart, .tagId ['A'], .argsStart, .argsEnd] =
    some ([.tag none ['A'] [] [] none], []) := by rfl

end C11
end Tempren

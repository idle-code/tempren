import TemprenModel.Props.C02
import TemprenModel.Props.C01
import TemprenModel.Props.C05
/-!
# C02 (chain clause, near end first) — "… it must also succeed for acyclic chains in which a file's
# destination is the current name of another selected file that itself moves away (e.g. renumbering
# 0,1,2 → 1,2,3), provided the processing order visits all such pairs in the same direction"

`C02.free_plan_succeeds_name_mode` covers chains visited from their far end (the destination has been
vacated by an earlier file).  Here the other uniform direction: every occupied destination is the current
path of a file that comes **later** in the processing order (`Awaited`, `NearPlan`); the claims are
`near_chain_succeeds_name_mode` and `near_chain_final_paths`.

The proof works on the dry-run renamer with a semantic invariant (`Moved`: a path exists virtually iff it is the
destination of a processed file, or an initial entry that is not the source of a processed file), one step lemma
for a successful call (`move_step`) used by both passes, one induction over the file list that follows each file
through both passes (`near_passes`: the backlog is a stack, so a deferred file is retried after everything behind it
has been dealt with), and is transferred to the real renamer through the C05 simulation
(`C05.dry_run_predicts_name_mode`).
-/
namespace Tempren
namespace C02

/-- the path `b` is the current path of a file that comes later in the processing order and is renamed -/
def Awaited (files : List FileRec) (gen : Nat → Gen) (k : Nat) (b : APath) : Prop :=
  ∃ (j : Nat) (fj : FileRec) (pj : PurePath), k < j ∧ Chg files gen j fj pj ∧ b = absKey fj.inputDir fj.rel

/-- a name-mode plan all of whose chains are visited from the near end: a changed file's destination is absent
    from the initial tree or is the path of a later file that is renamed itself -/
structure NearPlan (base : FS) (files : List FileRec) (gen : Nat → Gen) : Prop where
  gens : ∀ (k : Nat) (f : FileRec), files[k]? = some f → ∃ p, gen k = .path p ∧
      (p = f.rel ∨ (C05.NameCall base f.inputDir f.rel p ∧
        (lexists base (absKey f.inputDir p) = false ∨ Awaited files gen k (absKey f.inputDir p))))
  srcs : ∀ (k : Nat) (f : FileRec), files[k]? = some f → lexists base (absKey f.inputDir f.rel) = true
  srcDistinct : ∀ (k₁ k₂ : Nat) (f₁ f₂ : FileRec), k₁ < k₂ → files[k₁]? = some f₁ → files[k₂]? = some f₂ →
      absKey f₁.inputDir f₁.rel ≠ absKey f₂.inputDir f₂.rel
  dstDistinct : ∀ (k₁ k₂ : Nat) (f₁ f₂ : FileRec) (p₁ p₂ : PurePath), k₁ < k₂ → files[k₁]? = some f₁ → files[k₂]? = some f₂ →
      gen k₁ = .path p₁ → gen k₂ = .path p₂ → p₁ ≠ f₁.rel → p₂ ≠ f₂.rel →
      absKey f₁.inputDir p₁ ≠ absKey f₂.inputDir p₂

variable {base : FS} {files : List FileRec} {gen : Nat → Gen}

theorem NearPlan.keys (h : NearPlan base files gen) : PlanKeys base files gen := ⟨h.srcs, h.srcDistinct, h.dstDistinct⟩

theorem NearPlan.shape (h : NearPlan base files gen) {k : Nat} {f : FileRec} {p : PurePath} (hc : Chg files gen k f p) :
    C05.NameCall base f.inputDir f.rel p ∧
      (lexists base (absKey f.inputDir p) = false ∨ Awaited files gen k (absKey f.inputDir p)) := by
  obtain ⟨p', hg, hcase⟩ := h.gens k f hc.1
  cases hc.2.1.symm.trans hg
  exact hcase.resolve_left hc.2.2

/-- an awaited destination exists in the initial tree -/
theorem NearPlan.awaited_exists (h : NearPlan base files gen) {k : Nat} {b : APath} (ha : Awaited files gen k b) :
    lexists base b = true := by
  obtain ⟨j, fj, pj, _, hc, rfl⟩ := ha
  exact h.srcs j fj hc.1

/-- the semantic invariant of the dry-run state: with `P` the set of (indices of) files moved so far, a path
    exists virtually iff a moved file went there, or it is an initial entry no moved file came from -/
def Moved (base : FS) (files : List FileRec) (gen : Nat → Gen) (P : Nat → Prop) (d : DryState) : Prop :=
  d.base = base ∧ ∀ x, C05.vexists d x = true ↔
    ((∃ k f p, P k ∧ Chg files gen k f p ∧ absKey f.inputDir p = x) ∨
     (lexists base x = true ∧ ¬ ∃ k f p, P k ∧ Chg files gen k f p ∧ absKey f.inputDir f.rel = x))

theorem Moved.congr {P Q : Nat → Prop} {d : DryState}
    (hPQ : ∀ k f p, Chg files gen k f p → (P k ↔ Q k)) (h : Moved base files gen P d) : Moved base files gen Q d := by
  have key : ∀ φ : FileRec → PurePath → Prop,
      (∃ k f p, P k ∧ Chg files gen k f p ∧ φ f p) ↔ ∃ k f p, Q k ∧ Chg files gen k f p ∧ φ f p := fun φ =>
    exists_congr fun k => exists_congr fun f => exists_congr fun p =>
      ⟨fun ⟨hp, hc, h⟩ => ⟨(hPQ k f p hc).mp hp, hc, h⟩, fun ⟨hq, hc, h⟩ => ⟨(hPQ k f p hc).mpr hq, hc, h⟩⟩
  exact ⟨h.1, fun x => by rw [h.2 x, key fun f p => absKey f.inputDir p = x, key fun f p => absKey f.inputDir f.rel = x]⟩

section
variable {D : Nat → Prop} {d : DryState} {i : Nat}

/-- the files before `i` that satisfy `D`, one index further: `i` itself adds nothing if no changed file `i` satisfies `D` -/
theorem Moved.succ (hM : Moved base files gen (fun k => k < i ∧ D k) d) (hi : ∀ f p, Chg files gen i f p → ¬ D i) :
    Moved base files gen (fun k => k < i + 1 ∧ D k) d :=
  hM.congr fun k f p hc => ⟨fun ⟨hk, hd⟩ => ⟨by omega, hd⟩, fun ⟨hk, hd⟩ =>
    ⟨(Nat.lt_succ_iff_lt_or_eq.mp hk).resolve_right fun e => hi f p (e ▸ hc) (e ▸ hd), hd⟩⟩

/-- … and after file `i`, which satisfies `D`, has moved -/
theorem Moved.succ_add (hM : Moved base files gen (fun k => (k < i ∧ D k) ∨ k = i) d) (hi : D i) :
    Moved base files gen (fun k => k < i + 1 ∧ D k) d :=
  hM.congr fun k _ _ _ => ⟨fun h => h.elim (fun ⟨hk, hd⟩ => ⟨by omega, hd⟩) fun e => ⟨by omega, e ▸ hi⟩,
    fun ⟨hk, hd⟩ => (Nat.lt_succ_iff_lt_or_eq.mp hk).imp (⟨·, hd⟩) id⟩

/-- the files that satisfy `D` or come at `i + 1` or later, one index back: `i` adds nothing if every changed file `i`
    satisfies `D` -/
theorem Moved.pred (hM : Moved base files gen (fun k => D k ∨ i + 1 ≤ k) d) (hi : ∀ f p, Chg files gen i f p → D i) :
    Moved base files gen (fun k => D k ∨ i ≤ k) d :=
  hM.congr fun k f p hc => ⟨.imp id (by omega), fun h => h.elim .inl fun hk =>
    (Nat.lt_or_eq_of_le hk).elim (fun h => .inr h) fun e => .inl (e ▸ hi f p (e ▸ hc))⟩

/-- … and after file `i` has moved -/
theorem Moved.pred_add (hM : Moved base files gen (fun k => (D k ∨ i + 1 ≤ k) ∨ k = i) d) :
    Moved base files gen (fun k => D k ∨ i ≤ k) d :=
  hM.congr fun k _ _ _ =>
    ⟨fun h => h.elim (fun h => h.imp id fun hk => by omega) fun e => .inr (by omega), fun h => h.elim (.inl ∘ .inl) fun hk =>
      (Nat.lt_or_eq_of_le hk).elim (fun h => .inl (.inr h)) fun e => .inr e.symm⟩
end

theorem Chg.exists_or_eq {P : Nat → Prop} {i : Nat} {f : FileRec} {p : PurePath} (hc : Chg files gen i f p)
    (φ : FileRec → PurePath → Prop) :
    (∃ k f' p', (P k ∨ k = i) ∧ Chg files gen k f' p' ∧ φ f' p') ↔
      (∃ k f' p', P k ∧ Chg files gen k f' p' ∧ φ f' p') ∨ φ f p := by
  constructor
  · rintro ⟨k, f', p', hp | rfl, hc', h⟩
    · exact .inl ⟨k, f', p', hp, hc', h⟩
    · obtain ⟨rfl, rfl⟩ := hc.unique hc'
      exact .inr h
  · rintro (⟨k, f', p', hp, hc', h⟩ | h)
    · exact ⟨k, f', p', .inl hp, hc', h⟩
    · exact ⟨i, f, p, .inr rfl, hc, h⟩

/-- **One successful move.**  If file `i` has not moved yet, its source is an initial entry, its destination is
    absent initially or was the source of a file that has moved, and no moved file shares its source or destination
    or went to its source, then the dry-run call succeeds and the invariant holds with `i` added. -/
theorem move_step {P : Nat → Prop} {d : DryState} {i : Nat} {f : FileRec} {p : PurePath}
    (hM : Moved base files gen P d) (hc : Chg files gen i f p) (hG : C05.NameCall base f.inputDir f.rel p)
    (h1 : ∀ k f' p', P k → Chg files gen k f' p' → absKey f'.inputDir p' ≠ absKey f.inputDir p)
    (h2 : ∀ k f' p', P k → Chg files gen k f' p' → absKey f'.inputDir f'.rel ≠ absKey f.inputDir f.rel)
    (h3 : ∀ k f' p', P k → Chg files gen k f' p' → absKey f'.inputDir p' ≠ absKey f.inputDir f.rel)
    (h4 : lexists base (absKey f.inputDir f.rel) = true)
    (h5 : lexists base (absKey f.inputDir p) = false ∨
          ∃ j fj pj, P j ∧ Chg files gen j fj pj ∧ absKey fj.inputDir fj.rel = absKey f.inputDir p) :
    ∃ d', dryRunRenamer d f.inputDir f.rel p false = (d', none) ∧
      Moved base files gen (fun k => P k ∨ k = i) d' := by
  have hkne := hG.resolved.ne
  have hcall := hG.resolved.dryRunRenamer_eq d false
  have hvd : C05.vexists d (absKey f.inputDir p) = false := by
    rw [Bool.eq_false_iff]
    intro hv
    rcases (hM.2 _).mp hv with ⟨k, f', p', hp, hc', e⟩ | ⟨hb, hn⟩
    · exact h1 k f' p' hp hc' e
    · exact h5.elim (fun h5 => by rw [h5] at hb; cases hb) hn
  have hvs : C05.vexists d (absKey f.inputDir f.rel) = true :=
    (hM.2 _).mpr (Or.inr ⟨h4, fun ⟨k, f', p', hp, hc', e⟩ => h2 k f' p' hp hc' e⟩)
  rw [hvd, hvs, if_neg (by simp), if_neg (by simp)] at hcall
  refine ⟨_, hcall, hM.1, fun x => ?_⟩
  -- virtual existence after the call is `applyMove` of what it was; on the right, file `i` is split off
  rw [C05.vexists_move d hkne x, hc.exists_or_eq fun f' p' => absKey f'.inputDir p' = x,
    hc.exists_or_eq fun f' p' => absKey f'.inputDir f'.rel = x]
  exact C05.applyMove_closed hM.2 (fun ⟨k, f', p', hp, hc', e⟩ => h3 k f' p' hp hc' e) x

/-- **One refusal.**  A destination that is an initial entry no moved file came from still exists: the call is
    refused with `DestinationAlreadyExistsError` and the state is unchanged. -/
theorem defer_step {P : Nat → Prop} {d : DryState} {f : FileRec} {p : PurePath}
    (hM : Moved base files gen P d) (hG : C05.NameCall base f.inputDir f.rel p)
    (hb : lexists base (absKey f.inputDir p) = true)
    (hn : ∀ k f' p', P k → Chg files gen k f' p' → absKey f'.inputDir f'.rel ≠ absKey f.inputDir p) :
    dryRunRenamer d f.inputDir f.rel p false = (d, some .destExists) := by
  have hcall := hG.resolved.dryRunRenamer_eq d false
  have hv : C05.vexists d (absKey f.inputDir p) = true :=
    (hM.2 _).mpr (Or.inr ⟨hb, fun ⟨k, f', p', hp, hc', e⟩ => hn k f' p' hp hc' e⟩)
  rw [hv] at hcall
  show dryRunRenamerWith true d f.inputDir f.rel p false = _
  simpa using hcall

/-- index `k` is renamed by the plan to a path that is absent from the initial tree (moves in the first pass) -/
def DirectIdx (base : FS) (files : List FileRec) (gen : Nat → Gen) (k : Nat) : Prop :=
  ∃ f p, Chg files gen k f p ∧ lexists base (absKey f.inputDir p) = false

theorem Chg.lt {k : Nat} {f : FileRec} {p : PurePath} (h : Chg files gen k f p) : k < files.length :=
  (List.getElem?_eq_some_iff.mp h.1).1

theorem Moved.contained {P : Nat → Prop} {r : Run DryState} (hM : Moved base files gen P r.st) (hl : LinkFree base)
    {dir : APath} {src dst : PurePath} (hG : C05.NameCall base dir src dst) :
    contained (dryRenamer.view r.st) dir dst = .ok true :=
  (show dryRenamer.view r.st = base from hM.1) ▸ hG.resolved.contained_eq hl

/-- **a changed file of a near plan moves when its turn has come**: if the files moved so far are direct ones or later
    ones, nothing is in its way; its destination is free if it was absent initially or every later file has moved -/
theorem NearPlan.move (hplan : NearPlan base files gen) {P : Nat → Prop} {d : DryState} {i : Nat} {f : FileRec}
    {p : PurePath} (hM : Moved base files gen P d) (hc : Chg files gen i f p) (hi : ¬ P i)
    (hP : ∀ k, P k → DirectIdx base files gen k ∨ i < k)
    (hlater : lexists base (absKey f.inputDir p) = false ∨ ∀ j, i < j → P j) :
    ∃ d', dryRunRenamer d f.inputDir f.rel p false = (d', none) ∧ Moved base files gen (fun k => P k ∨ k = i) d' := by
  have hne : ∀ k, P k → k ≠ i := fun k hk e => hi (e ▸ hk)
  have hsrc := hplan.srcs i f hc.1
  refine move_step hM hc (hplan.shape hc).1 (fun k f' p' hp hc' => hplan.keys.dst_ne (hne k hp) hc' hc)
    (fun k f' p' hp hc' => hplan.keys.src_ne (hne k hp) hc'.1 hc.1) (fun k f' p' hp hc' e => ?_) hsrc ?_
  · -- a moved file that went to this file's source: its destination existed initially, so it is no direct one; it
    -- awaited a file later than itself, hence later than `i`, whose source is another one
    rcases (hplan.shape hc').2 with hfree | ⟨j, fj, pj, hkj, hcj, hbj⟩
    · rw [e, hsrc] at hfree; cases hfree
    · rcases hP k hp with ⟨f'', p'', hc'', hfree⟩ | hk
      · obtain ⟨rfl, rfl⟩ := hc'.unique hc''
        rw [e, hsrc] at hfree; cases hfree
      · exact hplan.keys.src_ne (by omega) hcj.1 hc.1 (hbj.symm.trans e)
  · exact hlater.elim .inl fun h => (hplan.shape hc).2.imp id fun ⟨j, fj, pj, hij, hcj, hbj⟩ =>
      ⟨j, fj, pj, h j hij, hcj, hbj.symm⟩

/-- **both passes of a near plan**, file by file.  Going through `rest`, the first pass moves the files whose destination
    is absent initially and defers the others (`bl'`); the second pass pops what was pushed last first, so it retries `bl'`
    from its end before anything deferred earlier (`tail`), and when the turn of a deferred file comes every later file
    has moved: its destination is vacated.  No conflict is ever resolved, so strategy and answers play no part. -/
theorem near_passes (hl : LinkFree base) (all : List FileRec) (hplan : NearPlan base all gen) (s : Strategy) :
    ∀ (rest : List FileRec) (i : Nat) (r : Run DryState) (bl : Backlog), all.drop i = rest →
      Moved base all gen (fun k => k < i ∧ DirectIdx base all gen k) r.st →
      ∃ r₁ bl', firstPass dryRenamer gen i rest r bl = (r₁, bl ++ bl', none) ∧
        Moved base all gen (fun k => k < i + rest.length ∧ DirectIdx base all gen k) r₁.st ∧
        ∀ (r₂ : Run DryState) (tail : Backlog) (as : List Answer),
          Moved base all gen (fun k => DirectIdx base all gen k ∨ i + rest.length ≤ k) r₂.st →
          ∃ r₃, secondPass dryRenamer s (bl'.reverse ++ tail) r₂ as = secondPass dryRenamer s tail r₃ as ∧
            Moved base all gen (fun k => DirectIdx base all gen k ∨ i ≤ k) r₃.st := by
  intro rest
  induction rest with
  | nil => intro i r bl _ hM; exact ⟨r, [], by simp [firstPass], hM, fun r₂ _ _ h => ⟨r₂, rfl, h⟩⟩
  | cons f rest ih =>
    intro i r bl hdrop hM
    obtain ⟨hfi, hdrop'⟩ := drop_cons hdrop
    obtain ⟨p, hgp, _⟩ := hplan.gens i f hfi
    rw [show i + (f :: rest).length = i + 1 + rest.length by simp; omega, firstPass]
    simp only [hgp]
    by_cases hsame : p = f.rel
    · -- keeps its name: skipped by both passes
      have hno : ∀ f' p', ¬ Chg all gen i f' p' := fun f' p' hc' =>
        hc'.2.2 (by rw [← Gen.path.inj (hgp.symm.trans hc'.2.1), hsame, Option.some.inj (hfi.symm.trans hc'.1)])
      obtain ⟨r₁, bl', h1, h2, h3⟩ := ih (i + 1) r bl hdrop' (hM.succ fun f' p' hc' => absurd hc' (hno f' p'))
      rw [if_pos hsame]
      exact ⟨r₁, bl', h1, h2, fun r₂ tail as h => (h3 r₂ tail as h).imp fun r₃ =>
        .imp id (·.pred fun f' p' hc' => absurd hc' (hno f' p'))⟩
    · have hc : Chg all gen i f p := ⟨hfi, hgp, hsame⟩
      obtain ⟨hG, hdst⟩ := hplan.shape hc
      rw [if_neg hsame, hM.contained hl hG]
      by_cases hb : lexists base (absKey f.inputDir p) = true
      · -- the destination exists initially: it is the source of a later file; refused now, retried after `bl'`
        obtain ⟨j, fj, pj, hij, hcj, hbj⟩ := hdst.resolve_left (by simp [hb])
        have hnd : ∀ f' p', Chg all gen i f' p' → ¬ DirectIdx base all gen i := fun _ _ _ ⟨f'', p'', hc'', hfree⟩ => by
          obtain ⟨rfl, rfl⟩ := hc.unique hc''
          rw [hfree] at hb; cases hb
        obtain ⟨r1, hr1, hst1⟩ := Run.call_of_eq (R := dryRenamer) (r := r) (defer_step hM hG hb
          fun k f' p' hp hc' e => hplan.keys.src_ne (by omega) hc'.1 hcj.1 (e.trans hbj))
        obtain ⟨r₁, bl', h1, h2, h3⟩ := ih (i + 1) r1 (bl ++ [(f.inputDir, f.rel, p)]) hdrop' (hst1 ▸ hM.succ hnd)
        refine ⟨r₁, (f.inputDir, f.rel, p) :: bl', by simp [hr1, RenErr.isFileExists, h1], h2, fun r₂ tail as h => ?_⟩
        obtain ⟨r₃, h4, hM₃⟩ := h3 r₂ ((f.inputDir, f.rel, p) :: tail) as h
        obtain ⟨d', hcall, hM'⟩ := hplan.move hM₃ hc (fun h => h.elim (hnd f p hc) (by omega))
          (fun k hk => hk.imp id (by omega)) (.inr fun j hj => .inr hj)
        obtain ⟨r₄, hr₄, hst₄⟩ := Run.call_of_eq (R := dryRenamer) (r := r₃) hcall
        refine ⟨r₄, ?_, hst₄ ▸ hM'.pred_add⟩
        rw [List.reverse_cons, List.append_assoc, List.singleton_append, h4, secondPass]
        simp only [hM₃.contained hl hG, hr₄]
      · -- the destination is absent: the file moves now
        have hb' : lexists base (absKey f.inputDir p) = false := by simpa using hb
        obtain ⟨d', hcall, hM'⟩ := hplan.move hM hc (fun h => Nat.lt_irrefl i h.1) (fun k hk => .inl hk.2) (.inl hb')
        obtain ⟨r1, hr1, hst1⟩ := Run.call_of_eq (R := dryRenamer) (r := r) hcall
        obtain ⟨r₁, bl', h1, h2, h3⟩ := ih (i + 1) r1 bl hdrop' (hst1 ▸ hM'.succ_add ⟨f, p, hc, hb'⟩)
        exact ⟨r₁, bl', by simp only [hr1, h1], h2, fun r₂ tail as h => (h3 r₂ tail as h).imp fun r₃ =>
          .imp id (·.pred fun _ _ _ => ⟨f, p, hc, hb'⟩)⟩

/-- the dry run of a near plan ends successfully, whatever the strategy and the answers, and in its final state
    every changed file has moved -/
theorem near_plan_dry_done (hl : LinkFree base) (files : List FileRec) (hplan : NearPlan base files gen)
    (strategy : Strategy) (answers : List Answer) :
    (execute dryRenamer { base := base } files gen strategy answers).2 = .done ∧
    Moved base files gen (fun _ => True) (execute dryRenamer { base := base } files gen strategy answers).1.st := by
  obtain ⟨r₁, bl, h1, hM₁, h2⟩ := near_passes hl files hplan strategy files 0 { st := { base := base } } [] (by simp)
    ⟨rfl, fun x => by simp [C05.vexists]⟩
  obtain ⟨r₃, h3, hM₃⟩ := h2 r₁ [] answers (hM₁.congr fun k _ _ hc => by simp [hc.lt, Nat.not_le_of_lt hc.lt])
  rw [List.nil_append] at h1
  rw [List.append_nil] at h3
  simp only [execute, h1, h3, secondPass]
  exact ⟨trivial, hM₃.congr fun k _ _ _ => by simp⟩

/-- **C02, chains visited from the near end (name mode).**  On a link-free tree, a plan in which every occupied
    destination is the current path of a later file that is renamed itself — any number of chains of any length,
    e.g. `0,1,2 → 1,2,3` processed in ascending order — ends successfully in the REAL run, for every file list,
    strategy and scripted answers; under `stop` the run has reported exactly the planned renames, none with
    override. -/
theorem near_chain_succeeds_name_mode (hw : WF base) (hl : LinkFree base)
    (files : List FileRec) (strategy : Strategy) (answers : List Answer)
    (hplan : NearPlan base files gen) (hnocustom : ∀ q, Answer.custom q ∉ answers) :
    (execute realNameRenamer { fs := base } files gen strategy answers).2 = .done ∧
    (strategy = .stop →
      ((execute realNameRenamer { fs := base } files gen strategy answers).1.events.map moveOf).Perm (planned gen 0 files) ∧
      ∀ e ∈ (execute realNameRenamer { fs := base } files gen strategy answers).1.events, e.override = false) := by
  obtain ⟨_, hout⟩ := C05.dry_run_predicts_name_mode base hw hl files gen strategy answers
    (fun k f hf p hg hne => (hplan.shape ⟨hf, hg, hne⟩).1) hnocustom
  have hdone := (near_plan_dry_done hl files hplan strategy answers).1
  have hreal : (execute realNameRenamer { fs := base } files gen strategy answers).2 = .done := by rw [hout, hdone]
  refine ⟨hreal, ?_⟩
  intro hs
  subst hs
  exact success_reports_exactly_the_plan realNameRenamer { fs := base } files gen answers _ (Prod.ext rfl hreal)

/-- **… and the plan has been applied (paths).**  After that run the real tree contains exactly: the generated
    path of every renamed file, and every initial path that is not the source of a renamed file — nothing else exists,
    nothing else is missing; the tree is still well formed and (for a run without override: `stop`, `ignore`) its
    leaves — identity, kind, content — are exactly the initial ones. -/
theorem near_chain_final_paths (hw : WF base) (hl : LinkFree base)
    (files : List FileRec) (strategy : Strategy) (answers : List Answer)
    (hplan : NearPlan base files gen) (hnocustom : ∀ q, Answer.custom q ∉ answers) :
    let final := (execute realNameRenamer { fs := base } files gen strategy answers).1.st.fs
    (∀ x, lexists final x = true ↔
      ((∃ k f p, Chg files gen k f p ∧ absKey f.inputDir p = x) ∨
       (lexists base x = true ∧ ¬ ∃ k f p, Chg files gen k f p ∧ absKey f.inputDir f.rel = x))) ∧
    WF final ∧ (NoOverride strategy answers → leaves final = leaves base) := by
  intro final
  obtain ⟨_, _, hS⟩ := C05.runs_agree_on (C05.name_mode_simulation base) _ _ (.init hw hl) files gen strategy answers
    (fun k f hf p hg hne => (hplan.shape ⟨hf, hg, hne⟩).1) (fun f _ q hq => absurd hq (hnocustom q))
  obtain ⟨_, _, hwf, _, _, _, hlex⟩ := hS
  obtain ⟨_, hM⟩ := near_plan_dry_done hl files hplan strategy answers
  refine ⟨fun x => ?_, hwf, ?_⟩
  · show lexists (execute realNameRenamer { fs := base } files gen strategy answers).1.st.fs x = true ↔ _
    rw [hlex x, hM.2 x]
    simp only [true_and]
  · intro hno
    exact (C01.no_loss false base hw none files gen strategy answers hno).1

/-- the hypotheses are satisfiable: the chain `a → b`, `b → c` visited from its near end (`a` first: its
    destination is the current name of the later file `b`, which moves to the absent name `c`) is a near plan -/
example :
    let base : FS := [⟨["in".toList], 1, .dir, 0⟩, ⟨["in".toList, "a".toList], 2, .file, 1⟩,
                      ⟨["in".toList, "b".toList], 3, .file, 2⟩]
    let files : List FileRec := [⟨["in".toList], ⟨false, ["a".toList]⟩⟩, ⟨["in".toList], ⟨false, ["b".toList]⟩⟩]
    let gen : Nat → Gen := fun i => if i = 0 then .path ⟨false, ["b".toList]⟩ else .path ⟨false, ["c".toList]⟩
    NearPlan base files gen := by
  intro base files gen
  have hk : PlanKeys base files gen :=
    planKeys_pair _ _ rfl rfl (by decide) (by decide) (by decide) (by decide)
  refine ⟨fun k f hf => ?_, hk.srcs, hk.srcDistinct, hk.dstDistinct⟩
  rcases getElem?_pair hf with ⟨rfl, rfl⟩ | ⟨rfl, rfl⟩
  · exact ⟨_, rfl, .inr ⟨.top (by decide),
      .inr ⟨1, _, _, by decide, ⟨rfl, rfl, by decide⟩, by decide⟩⟩⟩
  · exact ⟨_, rfl, .inr ⟨.top (by decide), .inl (by decide)⟩⟩

end C02
end Tempren

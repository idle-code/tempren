import TemprenModel.Lemmas.PipelineLemmas
import TemprenModel.Lemmas.FSLemmas
/-!
# C04 — A dry run never changes the filesystem

Proved on the pipeline: with the dry-run renamer the file system handed to the run is only ever
read — for every mode, strategy (override and every manual answer included), file list, plan,
order and answer sequence; and the pipeline builder selects the dry-run renamer in every mode.
**Partial:** what third-party libraries do to files while tags compute values is not modelled;
it is observed on the implementation (audit hook + lstat/ctime/content snapshot) for every tag
of the live registry.
-/
namespace Tempren
namespace C04

/-- a dry-run renamer call never touches the file system it reads -/
theorem dry_call_base (sameDir : Bool) (s : DryState) (cwd : APath) (src dst : PurePath) (ov : Bool) :
    (dryRunRenamerWith sameDir s cwd src dst ov).1.base = s.base := by
  rcases dryRunRenamerWith_cases sameDir s cwd src dst ov with ⟨e, h⟩ | h <;> rw [h]

/-- **the whole run**: whatever the options, the tree after a dry run is the tree before it -/
theorem dry_run_changes_nothing (pathMode : Bool) (fs : FS) (files : List FileRec) (gen : Nat → Gen)
    (strategy : Strategy) (answers : List Answer) :
    (execute (if pathMode then dryPathRenamer else dryRenamer) { base := fs } files gen strategy answers).1.st.base = fs := by
  have key : ∀ (R : Renamer DryState), (∀ s dir src dst ov, (R.call s dir src dst ov).1.base = s.base) →
      (execute R { base := fs } files gen strategy answers).1.st.base = fs := by
    intro R hR
    refine execute_induct R (fun r => r.st.base = fs) _ files gen strategy answers ?_ rfl
    intro r dir src dst ov h _ _
    rw [Run.call_st, hR, h]
  cases pathMode
  · exact key dryRenamer (dry_call_base true)
  · exact key dryPathRenamer (dry_call_base false)

/-- which renamer `build_pipeline` installs -/
inductive RenamerChoice where | dry | name | path
deriving DecidableEq, Repr

inductive Mode where | name | path | directory
deriving DecidableEq, Repr

/-- `build_pipeline`: `if config.dry_run: DryRunRenamer() else: FileRenamer() / FileMover()` -/
def chooseRenamer (dryRun : Bool) (mode : Mode) : RenamerChoice :=
  if dryRun then .dry else match mode with | .path => .path | _ => .name

/-- `--dry-run` selects the dry-run renamer in every mode -/
theorem build_dry_selects_dry (mode : Mode) : chooseRenamer true mode = .dry := rfl

/-- the dry-run state has no primitive log at all: nothing can be issued (by construction) -/
theorem dry_state_fields (s : DryState) : s = { base := s.base, removed := s.removed, created := s.created } := rfl

end C04
end Tempren

import TemprenModel.Props.C05Report
/-!
# C05 / C02 — the report applied, in closed form

`applyReport` replays a report rename by rename.  For a report without override whose sources are pairwise different
entries of the initial tree — what every successful `stop` run and every `ignore` run reports — the replay has a closed
form that does not mention the order: **a path exists afterwards iff some reported rename went there, or it existed
initially and no reported rename left from it** (`valid_report_closed_form`).  With `final_tree_is_report_applied` this
describes the tree the REAL run leaves behind: every reported file is at its reported destination path, every other
initial path is where it was, nothing else exists (`final_tree_closed_form`) — chains and all, because in a valid report
the rename *out of* a path always precedes the rename *into* it (`ValidReport`: each rename was possible when it was made,
an invariant of every run of the specification renamer, `spec_report_valid`).
-/
namespace Tempren
namespace C05

/-- the report of every run of the specification renamer is valid (its state is that report applied:
    `spec_state_is_report`) -/
theorem spec_report_valid (base : FS) (files : List FileRec) (gen : Nat → Gen) (strategy : Strategy)
    (answers : List Answer) :
    ValidReport base (execute specRenamer { base := base, occ := lexists base } files gen strategy answers).1.events :=
  (spec_run_valid base files gen strategy answers).2

/-- **closed form of a valid report without override whose sources are pairwise different initial entries** -/
theorem valid_report_closed_form (base : FS) : ∀ (n : Nat) (evs : List Event), evs.length ≤ n →
    ValidReport base evs → (∀ e ∈ evs, e.override = false) → (evs.map srcKey).Nodup →
    (∀ e ∈ evs, lexists base (srcKey e) = true) →
    ∀ x, applyReport base evs x = true ↔
      ((∃ e ∈ evs, dstKey e = x) ∨ (lexists base x = true ∧ ¬ ∃ e ∈ evs, srcKey e = x)) := by
  -- `n` bounds the length: the induction takes the LAST event off, which the list's own induction does not
  intro n
  induction n with
  | zero =>
    intro evs hlen _ _ _ _ x
    have : evs = [] := List.eq_nil_of_length_eq_zero (by omega)
    subst this
    simp [applyReport]
  | succ n ih =>
    intro evs hlen hval hov hnd hsrc x
    rcases List.eq_nil_or_concat evs with he | ⟨L, b, he⟩
    · subst he; simp [applyReport]
    · rw [List.concat_eq_append] at he
      subst he
      rw [List.map_append, List.nodup_append] at hnd
      have hvalL : ValidReport base L := hval.prefix
      have hovL : ∀ e ∈ L, e.override = false := fun e h => hov e (List.mem_append_left _ h)
      have ihL := ih L (by simp at hlen; omega) hvalL hovL hnd.1 fun e h => hsrc e (List.mem_append_left _ h)
      have snoc : ∀ φ : Event → Prop, (∃ e ∈ L ++ [b], φ e) ↔ (∃ e ∈ L, φ e) ∨ φ b := fun φ => by
        simp only [List.mem_append, List.mem_singleton, or_and_right, exists_or, exists_eq_left]
      rw [applyReport_snoc, snoc, snoc]
      refine applyMove_closed ihL ?_ x
      -- an earlier rename into the source of `b`: that path had been vacated before — but only `b` itself leaves it
      rintro ⟨e, he, hk⟩
      obtain ⟨p, q, rfl⟩ := List.append_of_mem he
      have hfree := (hvalL p e q rfl).2 (hovL e he)
      rw [hk] at hfree
      rcases (applyReport_cases base p (srcKey b)).2 hfree with h | ⟨e', he', hk'⟩
      · rw [hsrc b (by simp)] at h; cases h
      · exact hnd.2.2 _ (List.mem_map.mpr ⟨e', by simp [he'], rfl⟩) (srcKey b) (by simp) hk'

/-- **the tree the real run leaves behind, in closed form.**  Name mode, link-free tree, calls of name-mode shape: if the
    run's report uses no override and names pairwise different initial entries as sources (every successful `stop` run,
    every `ignore` run), a path exists afterwards iff a reported rename went there, or it existed initially and no reported
    rename left from it. -/
theorem final_tree_closed_form (base : FS) (hw : WF base) (hl : LinkFree base)
    (files : List FileRec) (gen : Nat → Gen) (strategy : Strategy) (answers : List Answer)
    (hplan : ∀ k f, files[k]? = some f → ∀ p, gen k = .path p → p ≠ f.rel → NameCall base f.inputDir f.rel p)
    (hcust : ∀ f ∈ files, ∀ q, Answer.custom q ∈ answers → NameCall base f.inputDir f.rel q) :
    let evs := (execute realNameRenamer { fs := base } files gen strategy answers).1.events
    (∀ e ∈ evs, e.override = false) → (evs.map srcKey).Nodup → (∀ e ∈ evs, lexists base (srcKey e) = true) →
    ∀ x, lexists (execute realNameRenamer { fs := base } files gen strategy answers).1.st.fs x = true ↔
      ((∃ e ∈ evs, dstKey e = x) ∨ (lexists base x = true ∧ ¬ ∃ e ∈ evs, srcKey e = x)) := by
  intro evs hov hnd hsrc x
  obtain ⟨hrd, hds, _, _⟩ := name_mode_runs base hw hl files gen strategy answers hplan hcust
  have hval := spec_report_valid base files gen strategy answers
  rw [← hds, ← hrd] at hval
  rw [final_tree_is_report_applied base hw hl files gen strategy answers hplan hcust x, ← hrd]
  exact valid_report_closed_form base evs.length evs (Nat.le_refl _) hval hov hnd hsrc x

/-- three readings of the closed form: every reported file is at its reported destination, every initial path that no
    reported rename left from is still there, and a path absent initially that no reported rename went to is absent -/
theorem closed_form_readings (base : FS) (evs : List Event) (final : APath → Bool)
    (h : ∀ x, final x = true ↔ ((∃ e ∈ evs, dstKey e = x) ∨ (lexists base x = true ∧ ¬ ∃ e ∈ evs, srcKey e = x))) :
    (∀ e ∈ evs, final (dstKey e) = true) ∧
    (∀ x, lexists base x = true → (∀ e ∈ evs, srcKey e ≠ x) → final x = true) ∧
    (∀ x, lexists base x = false → (∀ e ∈ evs, dstKey e ≠ x) → final x = false) := by
  refine ⟨fun e he => (h _).mpr (Or.inl ⟨e, he, rfl⟩), ?_, ?_⟩
  · intro x hb hn
    exact (h x).mpr (Or.inr ⟨hb, fun ⟨e, he, hk⟩ => hn e he hk⟩)
  · intro x hb hn
    cases hf : final x with
    | false => rfl
    | true =>
      rcases (h x).mp hf with ⟨e, he, hk⟩ | ⟨hb', _⟩
      · exact absurd hk (hn e he)
      · rw [hb] at hb'; cases hb'

/-- non-vacuity: the far-end chain report `[b → c, a → b]` on `in/{a, b}` is valid, without override, with different
    sources that exist initially -/
example :
    let base : FS := [⟨["in".toList], 1, .dir, 0⟩, ⟨["in".toList, "a".toList], 2, .file, 1⟩,
                      ⟨["in".toList, "b".toList], 3, .file, 2⟩]
    let e1 : Event := ⟨["in".toList], ⟨false, ["b".toList]⟩, ⟨false, ["c".toList]⟩, false⟩
    let e2 : Event := ⟨["in".toList], ⟨false, ["a".toList]⟩, ⟨false, ["b".toList]⟩, false⟩
    applyReport base [] (srcKey e1) = true ∧ applyReport base [] (dstKey e1) = false ∧
    applyReport base [e1] (srcKey e2) = true ∧ applyReport base [e1] (dstKey e2) = false ∧
    ([e1, e2].map srcKey).Nodup ∧ lexists base (srcKey e1) = true ∧ lexists base (srcKey e2) = true := by
  decide

end C05
end Tempren

import TemprenModel.Props.C10Lex
/-!
# C10 (converse clause) — "a template is accepted only if every one of its characters was recognised;
# nothing is silently dropped"

`lexStep_consumes` (from `lexStep_spec` of `C10Lex.lean`): every lexer step removes from the front of the input exactly the source text
`tokSrc t` of the token it emits, or exactly one layout character (TAB, LF, CR in every mode; a blank inside an
argument list) when it emits none.  `lex_covers` lifts this over the
whole input (any mode, any fuel): an accepted text is the concatenation, in order, of the source texts of its
tokens and of single skipped layout characters.  `accepted_all_recognised` is the clause of the property: if
`parseTemplate` accepts a text then the token texts are a subsequence of it and the characters outside
tokens are all layout — no other character can disappear between the text and the tree.
-/
namespace Tempren
namespace C10

/-- **One step drops nothing.**  What a lexer step removes from the front of the input is exactly the source
    text of the token it emits, or one layout character when it emits none. -/
theorem lexStep_consumes (m : Mode) (l : List Char) (tok : Option Tok) (m' : Mode) (rest : List Char)
    (h : lexStep m l = some (tok, m', rest)) :
    (∀ t, tok = some t → l = tokSrc t ++ rest) ∧
    (tok = none → ∃ c, l = c :: rest ∧ isLayout c = true) := by
  obtain ⟨c, w, rfl, hw⟩ := lexStep_spec h
  constructor
  · rintro k rfl; rw [hw]
  · rintro rfl; exact ⟨c, by rw [hw.1]; rfl, hw.2⟩

/-- a piece of the input: a token or one skipped layout character -/
inductive Piece where
  | tok (t : Tok)
  | skip (c : Char)

def Piece.src : Piece → List Char
  | .tok t => tokSrc t
  | .skip c => [c]

def Piece.tok? : Piece → Option Tok
  | .tok t => some t
  | .skip _ => none

def pieceOf (tok : Option Tok) (c : Char) : Piece :=
  match tok with
  | some t => .tok t
  | none => .skip c

theorem lexLoop_covers : ∀ (fuel : Nat) (m : Mode) (l : List Char) (ts : List Tok), lexLoop fuel m l = some ts →
    ∃ ps : List Piece, ps.flatMap Piece.src = l ∧ ps.filterMap Piece.tok? = ts ∧
      ∀ c, Piece.skip c ∈ ps → isLayout c = true := by
  intro fuel
  induction fuel with
  | zero =>
    intro m l ts h
    rw [lexLoop] at h
    split at h
    · cases h; subst l; exact ⟨[], rfl, rfl, by simp⟩
    · cases h
  | succ n ih =>
    intro m l ts h
    rw [lexLoop] at h
    split at h
    · cases h; subst l; exact ⟨[], rfl, rfl, by simp⟩
    · split at h
      · cases h
      · rename_i tok m' rest hstep
        split at h
        · cases h
        · rename_i ts' hrec
          cases h
          obtain ⟨ps, rfl, rfl, hskip⟩ := ih m' rest ts' hrec
          obtain ⟨c, w, rfl, hw⟩ := lexStep_spec hstep
          cases tok with
          | some t => exact ⟨.tok t :: ps, by simp [Piece.src, hw], rfl, by simpa using hskip⟩
          | none => exact ⟨.skip c :: ps, by simp [Piece.src, hw.1], rfl, by simpa [hw.2] using hskip⟩

/-- **Nothing is dropped.**  An accepted text is, in order, the source texts of its tokens interleaved with single
    layout characters. -/
theorem lex_covers (s : List Char) (ts : List Tok) (h : lex s = some ts) :
    ∃ ps : List Piece, ps.flatMap Piece.src = s ∧ ps.filterMap Piece.tok? = ts ∧
      ∀ c, Piece.skip c ∈ ps → isLayout c = true :=
  lexLoop_covers _ _ _ _ h

theorem pieces_sublist : ∀ (ps : List Piece),
    List.Sublist ((ps.filterMap Piece.tok?).flatMap tokSrc) (ps.flatMap Piece.src) := by
  intro ps
  induction ps with
  | nil => simp
  | cons p ps ih =>
    cases p with
    | tok t =>
      simp only [List.filterMap_cons, Piece.tok?, List.flatMap_cons, Piece.src]
      exact List.Sublist.append (List.Sublist.refl _) ih
    | skip c =>
      simp only [List.filterMap_cons, Piece.tok?, List.flatMap_cons, Piece.src]
      exact List.Sublist.trans ih (List.sublist_append_right _ _)

theorem pieces_nonlayout : ∀ (ps : List Piece), (∀ c, Piece.skip c ∈ ps → isLayout c = true) →
    ((ps.filterMap Piece.tok?).flatMap tokSrc).filter (fun c => !isLayout c) =
      (ps.flatMap Piece.src).filter (fun c => !isLayout c) := by
  intro ps
  induction ps with
  | nil => simp
  | cons p ps ih =>
    intro h
    have ih' := ih (fun c hc => h c (List.mem_cons_of_mem _ hc))
    cases p with
    | tok t =>
      simp only [List.filterMap_cons, Piece.tok?, List.flatMap_cons, Piece.src, List.filter_append, ih']
    | skip c =>
      have hc := h c (by simp)
      simp only [List.filterMap_cons, Piece.tok?, List.flatMap_cons, Piece.src, List.filter_append, ih']
      simp [hc]

/-- **The clause of C10.**  If a template text is accepted, the tokens the tree is built from, written out again,
    form a subsequence of the text, and the text's characters other than TAB/LF/CR/blank all occur in them, in
    order: every character was recognised. -/
theorem accepted_all_recognised (s : List Char) (p : Pat) (h : parseTemplate s = some p) :
    ∃ ts, lex s = some ts ∧ parseTokens ts = some p ∧
      List.Sublist (ts.flatMap tokSrc) s ∧
      (ts.flatMap tokSrc).filter (fun c => !isLayout c) = s.filter (fun c => !isLayout c) := by
  unfold parseTemplate at h
  split at h
  · rename_i ts hl
    obtain ⟨ps, hsrc, htok, hskip⟩ := lex_covers s ts hl
    refine ⟨ts, hl, h, ?_, ?_⟩
    · rw [← htok, ← hsrc]; exact pieces_sublist ps
    · rw [← htok, ← hsrc]; exact pieces_nonlayout ps hskip
  · cases h

/-- non-vacuity: an accepted text with skipped layout, and a rejected one -/
example : (lex "a\t%T( 1 ,x)".toList).isSome = true ∧ lex "%T(1;2)".toList = none ∧ lex "%T)".toList = none := by
  rw [String.toList_ofList, String.toList_ofList, String.toList_ofList]
  decide

end C10
end Tempren

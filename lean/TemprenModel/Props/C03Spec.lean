import TemprenModel.Props.C05Closed
import TemprenModel.Props.C02
/-!
# C03 (stop, the converse) — a real conflict never ends in success

`C03.stop_only_on_real_conflict` says that `--conflict-stop` stops *only if* the plan has a conflict.  Here the other
direction, for any number of files: if some file's generated destination already exists in the initial tree and is not
the current path of a file that the plan moves away (an unselected file, or a selected one that keeps its name), then
the run under `stop` **cannot end successfully** — whatever the other files, the order and the answers.

Proved on the specification renamer of `C05Report.lean` (state = the map path ↦ exists): its report is valid
(`C05.spec_report_valid`), so the reported rename onto the occupied destination was preceded by a reported rename away
from it (`C05.applyReport_cases`) — a planned move, which the hypothesis excludes.  Transferred to the real renamer
through the two simulations (`C05.name_mode_runs`).
-/
namespace Tempren
namespace C03
open C05

/-- a planned move is the move of a changed file of the list -/
theorem mem_planned (gen : Nat → Gen) (files : List FileRec) (i : Nat) (m : C02.Move) (h : m ∈ C02.planned gen i files) :
    ∃ (j : Nat) (f : FileRec) (p : PurePath), files[j]? = some f ∧ gen (i + j) = .path p ∧ p ≠ f.rel ∧ m = (f.inputDir, f.rel, p) :=
  C02.mem_planned.mp h

/-- **C03, stop: a real conflict never ends in success.**  Name mode, link-free tree, any file list, order and answers
    of name-mode shape: if the generated destination of some file exists initially and no file of the plan moves away
    from it, the run under `--conflict-stop` does not end `done` (its exit status is not 0). -/
theorem conflict_never_succeeds (base : FS) (hw : WF base) (hl : LinkFree base)
    (files : List FileRec) (gen : Nat → Gen) (answers : List Answer)
    (hplan : ∀ k f, files[k]? = some f → ∀ p, gen k = .path p → p ≠ f.rel → NameCall base f.inputDir f.rel p)
    (hcust : ∀ f ∈ files, ∀ q, Answer.custom q ∈ answers → NameCall base f.inputDir f.rel q)
    (k : Nat) (f : FileRec) (p : PurePath) (hf : files[k]? = some f) (hg : gen k = .path p) (hne : p ≠ f.rel)
    (hocc : lexists base (absKey f.inputDir p) = true)
    (hstays : ∀ j fj pj, files[j]? = some fj → gen j = .path pj → pj ≠ fj.rel →
      absKey fj.inputDir fj.rel ≠ absKey f.inputDir p) :
    (execute realNameRenamer { fs := base } files gen .stop answers).2 ≠ .done := by
  intro hdone
  obtain ⟨hrd, hds, hout, _⟩ := name_mode_runs base hw hl files gen .stop answers hplan hcust
  obtain ⟨hperm, hnoov⟩ := C02.success_reports_exactly_the_plan specRenamer { base := base, occ := lexists base }
    files gen answers _ (Prod.ext rfl (hout ▸ hdone))
  have hval := spec_report_valid base files gen .stop answers
  -- the move of file `k` was reported: when it was made its destination had been vacated, by a reported move …
  obtain ⟨e, he, hme⟩ := List.mem_map.mp (hperm.mem_iff.mpr (C02.mem_planned.mpr ⟨k, f, p, hf, by simpa using hg, hne, rfl⟩))
  obtain ⟨pre, post, hsplit⟩ := List.append_of_mem he
  have hfreed := (hval pre e post hsplit).2 (hnoov e he)
  have hdst : dstKey e = absKey f.inputDir p := by
    cases e; cases hme; rfl
  rw [hdst] at hfreed
  obtain ⟨e', he', hsrc⟩ := ((applyReport_cases base pre _).2 hfreed).resolve_left (by simp [hocc])
  -- … which is a planned move too: some changed file has this path as its source
  have he'' : e' ∈ (execute specRenamer { base := base, occ := lexists base } files gen .stop answers).1.events := by
    rw [hsplit]; exact List.mem_append_left _ he'
  obtain ⟨j, fj, pj, hfj, hgj, hnej, hmj⟩ := C02.mem_planned.mp (hperm.mem_iff.mp (List.mem_map.mpr ⟨e', he'', rfl⟩))
  apply hstays j fj pj hfj (by simpa using hgj) hnej
  rw [← hsrc]
  cases e'; cases hmj; rfl

/-- the hypotheses are satisfiable: `a → b` where `b` exists and is not renamed -/
example :
    let base : FS := [⟨["in".toList], 1, .dir, 0⟩, ⟨["in".toList, "a".toList], 2, .file, 1⟩,
                      ⟨["in".toList, "b".toList], 3, .file, 2⟩]
    lexists base (absKey ["in".toList] ⟨false, ["b".toList]⟩) = true ∧
    absKey ["in".toList] ⟨false, ["a".toList]⟩ ≠ absKey ["in".toList] ⟨false, ["b".toList]⟩ := by
  decide

end C03
end Tempren

import TemprenModel.Lemmas.NameMode
import TemprenModel.Lemmas.PipelineLemmas
/-!
# C06 — Renames stay inside the input directory and respect the mode
-/
namespace Tempren
namespace C06

theorem upOne_plain {cur : APath} (h0 : cur ≠ []) (hc : ∀ x ∈ cur, x ≠ dotdot) : upOne cur = cur.dropLast := by
  unfold upOne
  have : ¬ (cur = [] ∨ cur.getLast? = some dotdot) := by
    rintro (h | h)
    · exact h0 h
    · exact hc dotdot (List.mem_of_getLast? h) rfl
  rw [if_neg this]

theorem walk_eq_lexNorm {fs : FS} : ∀ (parts : List Name) (cur b : APath), (∀ x ∈ cur, x ≠ dotdot) →
    walk fs cur parts = .ok b → b = lexNorm cur parts := by
  intro parts
  induction parts with
  | nil => intro cur b _ h; simpa [walk, lexNorm, eq_comm] using h
  | cons c rest ih =>
    intro cur b hcur h
    have h := (walk_cons_ok.mp h).2.2
    rw [lexNorm]
    by_cases hc : c = dotdot
    · rw [if_pos hc] at h ⊢
      rw [upOne_plain h.1 hcur]
      exact ih _ _ (fun x hx => hcur x (List.dropLast_subset _ hx)) h.2
    · rw [if_neg hc] at h ⊢
      exact ih _ _ (List.forall_mem_append.mpr ⟨hcur, List.forall_mem_singleton.mpr hc⟩) h

/-- **containment** (tree without symbolic links, input directory spelled without `..`): a generated path that passed
    the check is, once the kernel has resolved it, inside the input directory — compared component-wise, so a sibling
    whose name merely starts with the input directory's name is outside -/
theorem containment (fs : FS) (h : NoLinks fs) (dir : APath) (hdir : ∀ x ∈ dir, x ≠ dotdot) (p : PurePath) (b : APath)
    (hc : contained fs dir p = .ok true) (hw : walkPath fs dir p = .ok b) : dir <+: b := by
  rw [C05.linkFree_resolve h] at hc
  unfold walkPath at hw
  rw [walk_eq_lexNorm _ _ _ (by cases p.abs <;> simpa using hdir) hw]
  exact List.isPrefixOf_iff_prefix.mp (Except.ok.inj hc)

/-- the string-prefix test of tempren before fix F4 is *not* containment (witness: `in` vs `in2`) -/
theorem string_prefix_is_not_containment :
    ("/w/in2/x".toList.take "/w/in".toList.length = "/w/in".toList) ∧
    ¬ ([['w'], ['i','n']] : APath) <+: [['w'], ['i','n','2'], ['x']] := by
  repeat rw [String.toList_ofList]
  decide

/-- a file whose generated name is invalid, or whose generated path escapes, ends the run with the
    invalid-destination outcome (exit status 1) *before* any renamer call is made for it -/
theorem refused_untouched {σ : Type} (R : Renamer σ) (gen : Nat → Gen) (i : Nat) (f : FileRec)
    (rest : List FileRec) (r : Run σ) (bl : Backlog)
    (h : gen i = .invalidName ∨ ∃ p, gen i = .path p ∧ p ≠ f.rel ∧ contained (R.view r.st) f.inputDir p = .ok false) :
    firstPass R gen i (f :: rest) r bl = (r, bl, some .invalidDest) := by
  rw [firstPass]
  rcases h with h | ⟨p, hp, hne, hc⟩
  · simp [h]
  · simp [hp, hne, hc]

theorem invalidDest_is_exit_1 : Outcome.invalidDest.exitStatus = 1 := exitStatus_table.2.2.1

/-- name mode: the generated name cannot be empty, "." or contain a separator, and the file keeps its parent -/
theorem withName_spec (p : PurePath) (n : List Char) :
    (∀ q, withName p n = some q → parentOf q = parentOf p ∧ nameOf q = n ∧ n ≠ [] ∧ '/' ∉ n) ∧
    ((n = [] ∨ '/' ∈ n ∨ n = dot) → withName p n = none) := by
  fun_cases withName p n
  · exact ⟨nofun, fun _ => rfl⟩
  · exact ⟨nofun, fun _ => rfl⟩
  · rename_i hn
    simp only [not_or] at hn
    refine ⟨fun q h => ?_, fun h => absurd h (by simp [hn])⟩
    obtain rfl := Option.some.inj h
    exact ⟨by simp [parentOf], by simp [nameOf], hn.1, hn.2.2⟩

/-- … and even a custom path typed at the prompt cannot leave the directory in name/directory mode:
    the renamer refuses a destination with another parent without touching anything -/
theorem name_mode_parent (s : RealState) (cwd : APath) (src dst : PurePath) (ov : Bool)
    (h : parentOf src ≠ parentOf dst) : (fileRenamer s cwd src dst ov).1 = s ∧
      (fileRenamer s cwd src dst ov).2 ≠ none := by
  fun_cases fileRenamer s cwd src dst ov
  · exact ⟨rfl, nofun⟩
  · exact ⟨rfl, nofun⟩
  · exact absurd h ‹_›

/-- directory mode: when a directory is renamed, every entry beneath it keeps its identity, kind,
    content and its position relative to the renamed directory (hence its name and its parent) -/
theorem dir_rename_keeps_nondirs (fs fs' : FS) (a b : APath) (h : renameAbs fs a b = .ok fs')
    (hb : fs.find b = none) (hab : a ≠ b) (e : Entry) (he : e ∈ fs) (hu : a.isPrefixOf e.path = true) :
    ∃ e' ∈ fs', e'.id = e.id ∧ e'.kind = e.kind ∧ e'.content = e.content ∧
      e'.path = b ++ e.path.drop a.length := by
  rw [renameAbs_fresh h hb hab]
  exact ⟨rekey a b e, List.mem_map_of_mem he, rekey_id a b e, rekey_kind a b e, rekey_content a b e,
    rekey_path_of_prefix (List.isPrefixOf_iff_prefix.mp hu)⟩

/-- and everything outside the renamed directory stays exactly where it was -/
theorem rename_keeps_outside (fs fs' : FS) (a b : APath) (h : renameAbs fs a b = .ok fs')
    (hb : fs.find b = none) (e : Entry) (he : e ∈ fs) (hu : ¬ a.isPrefixOf e.path = true) : e ∈ fs' := by
  obtain ⟨_, ha, _, _, ⟨rfl, _⟩ | ⟨_, _, rfl⟩⟩ := renameAbs_ok_iff.mp h
  · rw [hb] at ha; cases ha
  · exact mem_moved.mpr ⟨e, he, find_none_iff.mp hb e he, rekey_of_not_prefix (by simpa using hu)⟩

/-- the premises of `containment` are satisfiable, and the check really separates inside from outside:
    with input directory `in` (and a sibling `in2`), `x/../y` is inside, `../in2/y` is not -/
example :
    let fs : FS := [⟨["in".toList], 1, .dir, 0⟩, ⟨["in".toList, "a".toList], 2, .file, 1⟩, ⟨["in2".toList], 3, .dir, 0⟩]
    NoLinks fs ∧
    contained fs ["in".toList] ⟨false, ["x".toList, dotdot, "y".toList]⟩ = .ok true ∧
    contained fs ["in".toList] ⟨false, [dotdot, "in2".toList, "y".toList]⟩ = .ok false ∧
    contained fs ["in".toList] ⟨true, ["in".toList, "y".toList]⟩ = .ok true ∧
    contained fs ["in".toList] ⟨true, ["etc".toList, "y".toList]⟩ = .ok false := by
  intro fs
  have hl : NoLinks fs := by
    intro e he t
    simp only [fs, List.mem_cons, List.not_mem_nil, or_false] at he
    rcases he with rfl | rfl | rfl <;> simp
  refine ⟨hl, ?_, ?_, ?_, ?_⟩ <;>
    (rw [C05.linkFree_resolve hl]; rfl)

end C06
end Tempren

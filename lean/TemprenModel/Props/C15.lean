import TemprenModel.Model.Render
/-!
# C15 — An alias is indistinguishable from its pattern written in place

`inlinePat` writes every alias's bound pattern in place of the alias (recursively: aliases that
use other aliases, aliases inside contexts).  The theorems say rendering commutes with it — output
*and* successor tag states — hence for every sequence of files, stateful counters included.
-/
namespace Tempren
namespace C15

theorem renderPat_append : ∀ (a b : BPat) (f : FileRec),
    renderPat (BPat.append a b) f =
      match renderPat a f with
      | none => none
      | some (s, a') =>
        match renderPat b f with
        | none => none
        | some (t, b') => some (s ++ t, BPat.append a' b')
  | .nil, b, f => by
    simp only [BPat.append, renderPat]
    cases renderPat b f with
    | none => rfl
    | some r => obtain ⟨t, b'⟩ := r; simp
  | .cons e p, b, f => by
    simp only [BPat.append, renderPat]
    cases renderElem e f with
    | none => rfl
    | some r =>
      obtain ⟨s, e'⟩ := r
      simp only
      rw [renderPat_append p b f]
      cases renderPat p f with
      | none => rfl
      | some r2 =>
        obtain ⟨t, p'⟩ := r2
        simp only
        cases renderPat b f with
        | none => rfl
        | some r3 => obtain ⟨u, b'⟩ := r3; simp [BPat.append, List.append_assoc]

mutual
  /-- rendering an element's in-place expansion = rendering the element, with the same successor states -/
  theorem render_inlineElem (e : BElem) (f : FileRec) :
      renderPat (inlineElem e) f =
        match renderElem e f with
        | none => none
        | some (s, e') => some (s, inlineElem e') := by
    match e with
    | .raw s => simp [inlineElem, renderPat, renderElem]
    | .inst sem none =>
      simp only [inlineElem, renderPat, renderElem]
      cases applyTag sem f none with
      | none => rfl
      | some r => obtain ⟨v, sem'⟩ := r; simp [inlineElem]
    | .inst sem (some p) =>
      simp only [inlineElem, renderPat, renderElem]
      rw [render_inlinePat p f]
      cases renderPat p f with
      | none => rfl
      | some r =>
        obtain ⟨c, p'⟩ := r
        simp only
        cases applyTag sem f (some c) with
        | none => rfl
        | some r2 => obtain ⟨v, sem'⟩ := r2; simp [inlineElem]
    | .alias p =>
      simp only [inlineElem, renderElem]
      rw [render_inlinePat p f]
      cases renderPat p f with
      | none => rfl
      | some r => obtain ⟨s, p'⟩ := r; simp [inlineElem]
  theorem render_inlinePat (p : BPat) (f : FileRec) :
      renderPat (inlinePat p) f =
        match renderPat p f with
        | none => none
        | some (s, p') => some (s, inlinePat p') := by
    match p with
    | .nil => simp [inlinePat, renderPat]
    | .cons e q =>
      simp only [inlinePat, renderPat]
      rw [renderPat_append, render_inlineElem e f, render_inlinePat q f]
      cases renderElem e f with
      | none => rfl
      | some r =>
        obtain ⟨s, e'⟩ := r
        simp only
        cases renderPat q f with
        | none => rfl
        | some r2 => obtain ⟨t, q'⟩ := r2; simp [inlinePat]
end

/-- **C15**: a template using aliases renders exactly like the same template with every alias's pattern
    written in place — for every sequence of files (the counters of the two versions stay in step) -/
theorem render_alias_inline (p : BPat) (files : List FileRec) :
    renderSeq (inlinePat p) files = renderSeq p files := by
  induction files generalizing p with
  | nil => rfl
  | cons f fs ih =>
    simp only [renderSeq]
    rw [render_inlinePat p f]
    cases renderPat p f with
    | none => rfl
    | some r => obtain ⟨s, p'⟩ := r; simp only; rw [ih p']

/-- in filter and sort expressions an alias contributes the text its pattern renders as one string literal -/
theorem alias_is_one_string (printable : Char → Bool) (p : BPat) (f : FileRec) :
    exprElem printable (.alias p) f =
      match renderPat p f with
      | none => none
      | some (s, p') => some (pyRepr printable s, .alias p') := by
  simp only [exprElem, renderElem]
  cases renderPat p f with
  | none => rfl
  | some r => obtain ⟨s, p'⟩ := r; rfl

/-- an alias used inside a context contributes its rendered text to that context, like the inlined pattern -/
theorem alias_in_context (sem : TagSem) (p rest : BPat) (f : FileRec) :
    renderElem (.inst sem (some (inlinePat (.cons (.alias p) rest)))) f =
      match renderElem (.inst sem (some (.cons (.alias p) rest))) f with
      | none => none
      | some (v, .inst sem' (some c')) => some (v, .inst sem' (some (inlinePat c')))
      | some (v, e') => some (v, e') := by
  simp only [renderElem]
  rw [render_inlinePat]
  cases renderPat (.cons (.alias p) rest) f with
  | none => rfl
  | some r =>
    obtain ⟨c, c'⟩ := r
    simp only
    cases applyTag sem f (some c) with
    | none => rfl
    | some r2 => obtain ⟨v, sem'⟩ := r2; rfl

end C15
end Tempren

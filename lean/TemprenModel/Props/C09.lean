import TemprenModel.Model.Main
import TemprenModel.Lemmas.PipelineLemmas
import TemprenModel.Model.Render
/-!
# C09 — Every template mistake is reported as such before any file is touched

The model's parser, binder and renderer are total functions (Lean accepts no other), returning
`none` for every rejected template: that is "never crashes or hangs" *for the model*; that the
real ANTLR parser accepts and rejects the same strings with the same trees is the bounded-
exhaustive + random correspondence of this check.  Proved here: the exit statuses of the error
classes over the extracted `except` order; that every early exit of `main()` precedes the first
renamer call; structural rejections of the grammar; alias cycles run out of fuel.
**Partial:** ANTLR's exact error message/position is not modelled; "location inside the text" is
checked on the implementation by the oracle.
-/
namespace Tempren
namespace C09

/-- template mistakes exit with 3, evaluation failures with 4, usage errors with 2 (E3, from cli.py) -/
theorem exit_statuses :
    exitStatusOf "TemplateSyntaxError".toList = 3 ∧ exitStatusOf "TemplateSemanticError".toList = 3 ∧
    exitStatusOf "TemplateEvaluationError".toList = 4 ∧ exitStatusOf "ConfigurationError".toList = 2 ∧
    templateErrorExit = 3 ∧ evaluationErrorExit = 4 := by
  obtain ⟨_, _, _, syn, sem, ev, conf⟩ := exitStatusOf_table
  exact ⟨syn, sem, ev, conf, syn, ev⟩

/-- the two ways through `main()`: an early return with one of the three error statuses, nothing called and the
    state as it was; or every phase before the rename loop has passed and the result is that of `execute` -/
theorem mainModel_cases {σ : Type} (R : Renamer σ) (i : MainInput σ) :
    (∃ e, mainModel R i = ⟨e, i.st, [], true⟩ ∧ (e = 3 ∨ e = 4 ∨ e = 2)) ∨
    (mainModel R i = ⟨(execute R i.st i.files i.gen i.strategy i.answers).2.exitStatus,
        (execute R i.st i.files i.gen i.strategy i.answers).1.st,
        (execute R i.st i.files i.gen i.strategy i.answers).1.calls, true⟩ ∧
      i.compileName = true ∧ i.compileFilter = true ∧ i.compileSort = true ∧
      i.filterEval.any (·.isNone) = false ∧ i.sortEval.any (fun ok => !ok) = false ∧ i.sortComparable = true) := by
  obtain ⟨_, _, _, _, e3, e4⟩ := exit_statuses
  have e2 : usageErrorExit = 2 := exit_statuses.2.2.2.1
  fun_cases mainModel R i
  · exact .inl ⟨_, rfl, .inl e3⟩
  · exact .inl ⟨_, rfl, .inl e3⟩
  · exact .inl ⟨_, rfl, .inr (.inr e2)⟩
  · exact .inl ⟨_, rfl, .inl e3⟩
  · exact .inl ⟨_, rfl, .inr (.inl e4)⟩
  · exact .inl ⟨_, rfl, .inr (.inl e4)⟩
  · rename_i h1 h2 _ h3 h4 h5 r o he
    simp only [Bool.not_eq_true', Bool.not_eq_false, not_or, Bool.not_eq_true] at h1 h2 h3 h4 h5
    exact .inr ⟨by rw [he], h1, h2, h3, h4, h5.1, h5.2⟩

/-- **phases**: if any of the three templates does not compile, or a filter/sort expression fails to
    evaluate for some file (or the sort values cannot be compared), the run ends with status 3 resp. 4 — or 2, when a
    usage error is met first — and *no renamer call has been made* — for every renamer, tree and option set -/
theorem phases_before_rename {σ : Type} (R : Renamer σ) (i : MainInput σ)
    (h : i.compileName = false ∨ i.compileFilter = false ∨ i.compileSort = false ∨
         (∃ r ∈ i.filterEval, r = none) ∨ (∃ ok ∈ i.sortEval, ok = false) ∨ i.sortComparable = false) :
    (mainModel R i).calls = [] ∧ (mainModel R i).st = i.st ∧
    ((mainModel R i).exit = 3 ∨ (mainModel R i).exit = 4 ∨ (mainModel R i).exit = 2) := by
  rcases mainModel_cases R i with ⟨e, he, hs⟩ | ⟨_, h1, h2, h3, h4, h5, h6⟩
  · rw [he]; exact ⟨rfl, rfl, hs⟩
  · exfalso
    rcases h with h | h | h | ⟨r, hr, rfl⟩ | ⟨ok, hok, rfl⟩ | h
    · rw [h] at h1; cases h1
    · rw [h] at h2; cases h2
    · rw [h] at h3; cases h3
    · rw [List.any_eq_false] at h4; exact h4 none hr rfl
    · rw [List.any_eq_false] at h5; exact h5 false hok rfl
    · rw [h] at h6; cases h6

/-- the working directory is restored on every path through `main()` (`finally`) -/
theorem main_restores_cwd {σ : Type} (R : Renamer σ) (i : MainInput σ) : (mainModel R i).cwdRestored = true := by
  rcases mainModel_cases R i with ⟨_, h, _⟩ | ⟨h, _⟩ <;> rw [h]

/-- a template with an unrecognised character is rejected whatever else it contains (F5) -/
theorem lexer_error_rejects (s : List Char) (h : lex s = none) : parseTemplate s = none := by
  unfold parseTemplate; rw [h]

/-- a tag needs an argument list or a context: `%Name` alone is a syntax error -/
theorem tag_without_arguments_rejected (fuel : Nat) (cat : Option (List Char)) (name : List Char) :
    parseTagBody fuel cat name [] = none := by
  cases fuel <;> rfl

/-- an unclosed context is a syntax error -/
theorem unclosed_context_rejected (fuel : Nat) (cat : Option (List Char)) (name : List Char) (ts : List Tok)
    (h : ∀ p rest, parsePattern fuel ts = some (p, rest) → rest.head? ≠ some .ctxEnd) :
    parseTagBody (fuel + 1) cat name (.ctxStart :: ts) = none := by
  simp only [parseTagBody]
  cases hp : parsePattern fuel ts with
  | none => rfl
  | some r =>
    obtain ⟨p, rest⟩ := r
    have := h p rest hp
    cases rest with
    | nil => rfl
    | cons t u =>
      cases t <;> first | rfl | (simp at this)

/-- binding runs out of fuel on a tag: with no fuel left nothing is bound (how alias cycles end) -/
theorem bind_no_fuel (aliases : List (List Char × List Char)) (cat : Option (List Char)) (name : List Char)
    (args : List ArgVal) (kws : List (List Char × ArgVal)) (ctx : Option Pat) :
    bindElem aliases 0 (.tag cat name args kws ctx) = none := by
  simp only [bindElem]

/-- an alias given arguments, named arguments or a context never binds -/
theorem alias_rejects_args_and_context (aliases : List (List Char × List Char)) (fuel : Nat) (name text : List Char)
    (args : List ArgVal) (kws : List (List Char × ArgVal)) (ctx : Option Pat)
    (ha : aliases.find? (fun a => a.1 = name) = some (name, text))
    (h : args ≠ [] ∨ kws ≠ [] ∨ ctx.isSome = true) :
    bindElem aliases (fuel + 1) (.tag none name args kws ctx) = none := by
  simp only [bindElem, Option.isSome_none, Bool.false_eq_true, if_false, ha]
  have : (!args.isEmpty) = true ∨ (!kws.isEmpty) = true ∨ ctx.isSome = true := by simpa using h
  rw [if_pos this]

/-- the premise of `phases_before_rename` is satisfiable and the conclusion is not vacuous: a sort expression
    failing for the third file ends the run with status 4 and without a renamer call, whatever the tree -/
example (fs : FS) : (mainModel realNameRenamer
    { compileName := true, compileFilter := true, compileSort := true, usageError := false,
      filterEval := [some true, some false], sortEval := [true, true, false], sortComparable := true,
      files := [⟨["in".toList], ⟨false, ["a".toList]⟩⟩], gen := fun _ => .path ⟨false, ["b".toList]⟩,
      strategy := .stop, answers := [], st := { fs := fs } }).exit = 4 := by
  simp [mainModel, exit_statuses.2.2.2.2.2]

end C09
end Tempren

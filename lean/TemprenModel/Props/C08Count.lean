import TemprenModel.Props.C08
import TemprenModel.Props.C16
/-!
# C08 (second clause) — "… so sequence-dependent templates such as %Count() number the files in that order"

The sorter composed with the counter: the files are sorted (`pySorted`), then `%Count` is called
once per file in that order (`CountTag.run` over the directories of the sorted files).  For any
two selected files `a`, `b` such that `a` sorts strictly before `b` (`sortLe key inv b a = false`:
strictly smaller tuple, strictly larger with `--sort-invert`) and which share a counter (same
directory, or the `common` flag):

* `a` is processed at an earlier position than `b`;
* the counter value `a` receives is strictly lower for a positive step (strictly higher for a
  negative one), the values being `base + k·step` with `k` the number of earlier files that share
  the counter.

For every list of files, key function, direction, directory assignment and counter state.
-/
namespace Tempren
namespace C08
variable {α : Type} {D : Type} [DecidableEq D]

/-- an element strictly before another in the sort order stands at an earlier position of the sorted list -/
theorem strictly_smaller_first (key : α → List KeyAtom) (inv : Bool) (l : List α) (a b : α)
    (ha : a ∈ l) (hb : b ∈ l) (hlt : sortLe key inv b a = false) :
    ∃ pre mid post, pySorted key inv l = pre ++ a :: (mid ++ b :: post) := by
  have hpw := pySorted_pairwise key inv l
  have hb' := (sorted_perm key inv l).mem_iff.mpr hb
  obtain ⟨pre, post, hs⟩ := List.append_of_mem ((sorted_perm key inv l).mem_iff.mpr ha)
  rw [hs] at hpw hb'
  -- `b` is not `a` and not before `a`: either would make it `≤ a`
  have hnle : ∀ x, sortLe key inv x a = true → x ≠ b := fun x hx e => by rw [e, hlt] at hx; cases hx
  rcases List.mem_append.mp hb' with h | h
  · exact absurd rfl (hnle b ((List.pairwise_append.mp hpw).2.2 b h a List.mem_cons_self))
  · rcases List.mem_cons.mp h with h | h
    · exact absurd h.symm (hnle a (sortLe_of_key_eq key inv a a rfl))
    · obtain ⟨mid, post', hp⟩ := List.append_of_mem h
      exact ⟨pre, mid, post', by rw [hs, hp]⟩

/-- **sorter ∘ counter.**  The file that sorts strictly first is processed first and gets the strictly
    earlier member `base + k·step` of the arithmetic sequence of the counter the two files share. -/
theorem count_follows_sort (key : α → List KeyAtom) (inv : Bool) (dir : α → D) (l : List α)
    (t : CountTag D) (a b : α) (ha : a ∈ l) (hb : b ∈ l) (hlt : sortLe key inv b a = false)
    (hshare : t.common.isSome = true ∨ dir a = dir b) :
    ∃ i j ka kb : Nat, i < j ∧ ka < kb ∧
      (pySorted key inv l)[i]? = some a ∧ (pySorted key inv l)[j]? = some b ∧
      (t.run ((pySorted key inv l).map dir))[i]? = some (t.render (t.counterOf (dir a) + (ka : Int) * t.step)) ∧
      (t.run ((pySorted key inv l).map dir))[j]? = some (t.render (t.counterOf (dir a) + (kb : Int) * t.step)) := by
  obtain ⟨pre, mid, post, hs⟩ := strictly_smaller_first key inv l a b ha hb hlt
  have hc : t.counterOf (dir a) = t.counterOf (dir b) := by
    rcases hshare with h | h
    · unfold CountTag.counterOf
      cases hcm : t.common with
      | none => simp [hcm] at h
      | some c => rfl
    · rw [h]
  -- `a` is called after `pre`, `b` after `pre ++ a :: mid`
  have ia := C16.count_kth_from t (pre.map dir) (dir a) ((mid ++ b :: post).map dir)
  have ib := C16.count_kth_from t ((pre ++ a :: mid).map dir) (dir b) (post.map dir)
  refine ⟨pre.length, (pre ++ a :: mid).length, _, _, by simp, ?_, by simp [hs], by simp [hs],
    by simpa [hs] using ia, by simpa [hs, hc] using ib⟩
  unfold C16.occ
  split
  · simp
  · rw [← hshare.resolve_left ‹_›]
    simp only [List.count_append, List.count_cons_self]
    omega

/-- with a positive step the value given to the earlier-sorting file is strictly lower -/
theorem count_follows_sort_values (t : CountTag D) (base : Int) (ka kb : Nat) (h : ka < kb) :
    (0 < t.step → base + (ka : Int) * t.step < base + (kb : Int) * t.step) ∧
    (t.step < 0 → base + (kb : Int) * t.step < base + (ka : Int) * t.step) := by
  have hk : (ka : Int) < kb := by exact_mod_cast h
  constructor
  · intro hs
    have := Int.mul_lt_mul_of_pos_right hk hs
    omega
  · intro hs
    have := Int.mul_lt_mul_of_neg_right hk hs
    omega

/-- non-vacuity: the hypotheses are satisfiable — in `[30, 10, 20]` sorted by an integer key, 10 sorts
    strictly before 20 (and, inverted, 20 strictly before 10), and one directory means one shared counter -/
example :
    let key : Nat → List KeyAtom := fun n => [KeyAtom.int n]
    (10 ∈ [30, 10, 20]) ∧ (20 ∈ [30, 10, 20]) ∧ sortLe key false 20 10 = false ∧ sortLe key true 10 20 = false ∧
    ((fun _ : Nat => ()) 10 = (fun _ : Nat => ()) 20) := by decide

end C08
end Tempren

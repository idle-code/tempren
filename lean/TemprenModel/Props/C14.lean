import TemprenModel.Lemmas.ReprLemmas
import TemprenModel.Lemmas.IntLemmas
import TemprenModel.Lemmas.PathLemmas
/-!
# C14 — File-derived values enter filter/sort expressions as data, never as code

The no-injection lemma: whatever characters a value contains, the literal `repr` writes for
it is scanned by Python's string-literal rules to *exactly* that value and ends *exactly*
where `repr` ended it — for every text that follows.  `printable` (a Unicode table) is an
arbitrary parameter: the theorem does not depend on it.
Values of other types (float, datetime, library objects) are enumerated by the harness.
-/
namespace Tempren
namespace C14

/-- **str**: the literal's extent and value are independent of the content and of what follows -/
theorem scan_repr (printable : Char → Bool) (s rest : List Char) :
    scanStringLit (pyRepr printable s ++ rest) = some (s, rest) := by
  unfold pyRepr
  have hq := reprQuote_cases s
  simp only [List.cons_append, List.append_assoc, List.nil_append, scanStringLit]
  rw [if_pos hq]
  exact reprBody_scan printable _ hq s rest

/-- whatever the scanner reads off a `repr` literal up to the same rest is the string itself (`scan_repr` read backwards) -/
theorem repr_no_early_close (printable : Char → Bool) (s : List Char) :
    ∀ t rest, scanStringLit (pyRepr printable s ++ rest) = some (t, rest) → t = s := by
  intro t rest h
  rw [scan_repr] at h
  simp at h; exact h.symm

/-- **int**: `repr` writes an optional minus sign and a decimal literal without leading
    zeros that denotes the magnitude -/
theorem repr_int (i : Int) :
    ∃ ds, pyIntStr i = (if i < 0 then ['-'] else []) ++ ds ∧ scanIntLit ds = some i.natAbs := by
  refine ⟨natDigits i.natAbs, ?_, ?_⟩
  · unfold pyIntStr; split <;> simp
  · unfold scanIntLit
    have h1 := natDigits_ne_nil i.natAbs
    have h2 := all_digits_natDigits i.natAbs
    have h3 : natDigits i.natAbs = ['0'] ∨ (natDigits i.natAbs).head? ≠ some '0' := by
      by_cases h : i.natAbs = 0
      · left; rw [h, natDigits_zero]
      · right; exact natDigits_head _ h
    rw [if_pos ⟨h1, h2, h3⟩, parseDigits_natDigits]

/-- **bool**: the two names Python evaluates to the two booleans -/
theorem repr_bool (b : Bool) : pyReprBool b = (if b then "True".toList else "False".toList) := rfl

/-- a path as the gatherers and `Path.parent` produce it -/
def Normalized (p : PurePath) : Prop := ∀ c ∈ p.parts, c ≠ [] ∧ c ≠ dot ∧ '/' ∉ c

/-- **path**: `repr(PosixPath)` is the constructor applied to a string literal that scans
    back to `str(p)`, and the constructor rebuilds the same path -/
theorem repr_path (printable : Char → Bool) (p : PurePath) (h : Normalized p) (rest : List Char) :
    ∃ lit, pyReprPath printable (strPath p) = "PosixPath(".toList ++ lit ++ [')'] ∧
      scanStringLit (lit ++ ')' :: rest) = some (strPath p, ')' :: rest) ∧
      parsePath (strPath p) = p :=
  ⟨pyRepr printable (strPath p), rfl, scan_repr _ _ _, parsePath_strPath p h⟩

/-- Non-vacuity: a file name that tries to close the literal and call a function. -/
example : pyRepr (fun _ => true) "'+__import__(\"os\").system(\"x\")+'\n\\".toList =
    "'\\'+__import__(\"os\").system(\"x\")+\\'\\n\\\\'".toList := by
  -- the literals become lists by the theorem: evaluating `String.toList` decodes UTF-8, which is slow to check
  rw [String.toList_ofList, String.toList_ofList]; decide +kernel

example : scanStringLit ("'\\'+__import__(\"os\").system(\"x\")+\\'\\n\\\\' or True".toList) =
    some ("'+__import__(\"os\").system(\"x\")+'\n\\".toList, " or True".toList) := by
  rw [String.toList_ofList, String.toList_ofList, String.toList_ofList]; decide +kernel

end C14
end Tempren

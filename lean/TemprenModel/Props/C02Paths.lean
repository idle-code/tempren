import TemprenModel.Props.C02
import TemprenModel.Props.C05Closed
import TemprenModel.Props.C01
/-!
# C02 (first sentence, at the level of paths) — a reported success means the plan was applied, for EVERY plan

"Whenever a run under the default (stop) strategy exits with status 0, every selected file is found at exactly
input-directory/generated-path … and nothing else in the tree has changed."  `stop_success_paths`: name mode, link-free
tree, any file list whose entries are pairwise different existing entries, any plan of name-mode shape — free, chained in
either direction or both, whatever made the run succeed — and any order: if the run under `stop` ends `done`, then a path
exists in the final tree **iff** it is the generated path of a file whose name changes, or it existed initially and is not
the path of such a file.  (Identities and contents: `C01.no_loss` — the leaves are the initial ones.)

From `C02.success_reports_exactly_the_plan` (the report is a permutation of the planned moves, none with override),
`C05.final_tree_closed_form` (the closed form of a valid report) and `planned_srcKeys_nodup`.
-/
namespace Tempren
namespace C02
open C05

def fileKey (f : FileRec) : APath := absKey f.inputDir f.rel
def moveSrcKey (m : Move) : APath := absKey m.1 m.2.1
def moveDstKey (m : Move) : APath := absKey m.1 m.2.2

theorem planned_srcKeys_sublist (gen : Nat → Gen) : ∀ (files : List FileRec) (i : Nat),
    ((planned gen i files).map moveSrcKey).Sublist (files.map fileKey) := by
  intro files
  induction files with
  | nil => intro i; exact .slnil
  | cons f rest ih =>
    intro i
    rw [planned, List.map_append, List.map_cons]
    cases gen i with
    | path p =>
      dsimp only
      by_cases hp : p = f.rel
      · rw [if_pos hp]; exact (ih (i + 1)).cons _
      · rw [if_neg hp]; exact (ih (i + 1)).cons_cons _
    | invalidName => exact (ih (i + 1)).cons _
    | error => exact (ih (i + 1)).cons _

/-- the planned moves of pairwise different entries have pairwise different sources -/
theorem planned_srcKeys_nodup (gen : Nat → Gen) : ∀ (files : List FileRec) (i : Nat), (files.map fileKey).Nodup →
    ((planned gen i files).map moveSrcKey).Nodup :=
  fun files i h => (planned_srcKeys_sublist gen files i).nodup h

theorem report_srcs {base : FS} {files : List FileRec} {gen : Nat → Gen} {evs : List Event} {l : List Move}
    (hsrcs : ∀ f ∈ files, lexists base (fileKey f) = true) (hnd : (files.map fileKey).Nodup)
    (hperm : l.Perm (planned gen 0 files)) (hsub : (evs.map moveOf).Sublist l) :
    (evs.map srcKey).Nodup ∧ ∀ e ∈ evs, lexists base (srcKey e) = true := by
  have hmap : evs.map srcKey = (evs.map moveOf).map moveSrcKey := by
    simp [Function.comp_def, srcKey, moveSrcKey, moveOf]
  refine ⟨hmap ▸ (hsub.map moveSrcKey).nodup (((hperm.map moveSrcKey).nodup_iff).mpr (planned_srcKeys_nodup gen files 0 hnd)),
    fun e he => ?_⟩
  obtain ⟨f, hf, hk⟩ := List.mem_map.mp ((planned_srcKeys_sublist gen files 0).subset
    ((hperm.map moveSrcKey).mem_iff.mp ((hsub.map moveSrcKey).subset (hmap ▸ List.mem_map_of_mem he))))
  exact hk ▸ hsrcs f hf

/-- **C02, first sentence, paths**: if the `stop` run (no scripted answers) of a name-mode plan over pairwise different
    existing entries ends `done`, then a path exists afterwards iff a planned move goes there, or it existed initially
    and no planned move leaves from it -/
theorem stop_success_paths (base : FS) (hw : WF base) (hl : LinkFree base)
    (files : List FileRec) (gen : Nat → Gen)
    (hplan : ∀ k f, files[k]? = some f → ∀ p, gen k = .path p → p ≠ f.rel → NameCall base f.inputDir f.rel p)
    (hsrcs : ∀ f ∈ files, lexists base (fileKey f) = true) (hnd : (files.map fileKey).Nodup)
    (hdone : (execute realNameRenamer { fs := base } files gen .stop []).2 = .done) :
    ∀ x, lexists (execute realNameRenamer { fs := base } files gen .stop []).1.st.fs x = true ↔
      ((∃ m ∈ planned gen 0 files, moveDstKey m = x) ∨
       (lexists base x = true ∧ ¬ ∃ m ∈ planned gen 0 files, moveSrcKey m = x)) := by
  obtain ⟨hperm, hov⟩ := success_reports_exactly_the_plan realNameRenamer { fs := base } files gen [] _ (Prod.ext rfl hdone)
  obtain ⟨hndE, hsrcE⟩ := report_srcs hsrcs hnd hperm (.refl _)
  -- a key of the report is a key of the plan
  have hkeys : ∀ (k : Move → APath) (x : APath),
      (∃ e ∈ (execute realNameRenamer { fs := base } files gen .stop []).1.events, k (moveOf e) = x) ↔
        ∃ m ∈ planned gen 0 files, k m = x := fun k x =>
    ⟨fun ⟨e, he, hk⟩ => ⟨moveOf e, hperm.mem_iff.mp (List.mem_map.mpr ⟨e, he, rfl⟩), hk⟩, fun ⟨m, hm, hk⟩ => by
      obtain ⟨e, he, rfl⟩ := List.mem_map.mp (hperm.mem_iff.mpr hm)
      exact ⟨e, he, hk⟩⟩
  intro x
  rw [final_tree_closed_form base hw hl files gen .stop [] hplan (fun _ _ q hq => nomatch hq) hov hndE hsrcE x]
  exact or_congr (hkeys moveDstKey x) (and_congr_right' (not_congr (hkeys moveSrcKey x)))

/-- … and, for any tree, file list, plan and order: the well-formed final tree of a `stop` run holds exactly the initial
    leaves — identity, kind and content (`C01.no_loss`, restated next to `stop_success_paths`: together they say *which*
    paths exist and *what* the tree holds) -/
theorem stop_run_leaves (base : FS) (hw : WF base) (files : List FileRec) (gen : Nat → Gen) :
    leaves (execute realNameRenamer { fs := base } files gen .stop []).1.st.fs = leaves base ∧
    WF (execute realNameRenamer { fs := base } files gen .stop []).1.st.fs := by
  have := C01.no_loss false base hw none files gen .stop [] (Or.inl rfl)
  exact ⟨this.1, this.2.2⟩

/-- non-vacuity of the side conditions: two different existing entries -/
example :
    let base : FS := [⟨["in".toList], 1, .dir, 0⟩, ⟨["in".toList, "a".toList], 2, .file, 1⟩,
                      ⟨["in".toList, "b".toList], 3, .file, 2⟩]
    let files : List FileRec := [⟨["in".toList], ⟨false, ["a".toList]⟩⟩, ⟨["in".toList], ⟨false, ["b".toList]⟩⟩]
    (files.map fileKey).Nodup ∧ ∀ f ∈ files, lexists base (fileKey f) = true := by
  decide

end C02
end Tempren

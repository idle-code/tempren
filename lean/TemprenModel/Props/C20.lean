import TemprenModel.Model.AdHoc
/-!
# C20 — Ad-hoc tags pass arguments, context and file path to the program verbatim
Proved about the invocation builder and the result decoder.  Trusted: `subprocess.run`
with a list and without `shell=` performs `execve(argv)` with the given cwd and feeds
`input` through a pipe (extract.py additionally checks the call's shape structurally).
-/
namespace Tempren
namespace C20

/-- without context: program, the arguments in order, then the relative path; stdin untouched -/
theorem argv_no_context (exe : Str') (args : List Str') (dir rel : Str') :
    (adhocInvoke exe args dir rel none).argv = exe :: (args ++ [rel]) ∧
    (adhocInvoke exe args dir rel none).stdin = none ∧
    (adhocInvoke exe args dir rel none).cwd = dir := ⟨rfl, rfl, rfl⟩

/-- with a context (the empty one included): no path, the context's UTF-8 bytes on stdin -/
theorem argv_context (exe : Str') (args : List Str') (dir rel ctx : Str') :
    (adhocInvoke exe args dir rel (some ctx)).argv = exe :: args ∧
    (adhocInvoke exe args dir rel (some ctx)).stdin = some (utf8 ctx) ∧
    (adhocInvoke exe args dir rel (some ctx)).cwd = dir := ⟨rfl, rfl, rfl⟩

/-- the empty context still sends (zero) bytes instead of leaving stdin inherited -/
theorem empty_context_is_piped (exe : Str') (args : List Str') (dir rel : Str') :
    (adhocInvoke exe args dir rel (some [])).stdin = some [] := rfl

/-- arguments are neither split, joined, altered nor reordered, however many there are -/
theorem args_verbatim (exe : Str') (args : List Str') (dir rel : Str') (ctx : Option Str') :
    ((adhocInvoke exe args dir rel ctx).argv.drop 1).take args.length = args ∧
    (adhocInvoke exe args dir rel ctx).argv.length = 1 + args.length + (if ctx.isSome then 0 else 1) := by
  cases ctx <;> simp [adhocInvoke] <;> omega

/-- the i-th argument the program sees is the i-th argument written in the template -/
theorem arg_ith (exe : Str') (args : List Str') (dir rel : Str') (ctx : Option Str') (i : Nat)
    (h : i < args.length) : (adhocInvoke exe args dir rel ctx).argv[i + 1]? = some args[i] := by
  cases ctx <;> simp [adhocInvoke, List.getElem?_append_left, h]

/-- value of a completed call = stdout stripped, on exit status 0, else ""; stderr never enters it -/
theorem value_spec (exit : Int) (out err : Str') :
    adhocRendered (.completed exit out err) = (if exit = 0 then pyStrip out else []) := by
  simp only [adhocRendered, adhocValue]
  split <;> simp

theorem stderr_ignored (exit : Int) (out err err' : Str') :
    adhocRendered (.completed exit out err) = adhocRendered (.completed exit out err') := by
  simp [value_spec]

theorem timeout_renders_empty : adhocRendered .timeout = [] := rfl

/-- Non-vacuity: hostile arguments stay single elements. -/
example : (adhocInvoke "/bin/p".toList ["a b".toList, "$(x)".toList, "".toList, "-n".toList]
    "/in".toList "-f;x".toList none).argv
    = ["/bin/p".toList, "a b".toList, "$(x)".toList, "".toList, "-n".toList, "-f;x".toList] := rfl

end C20
end Tempren

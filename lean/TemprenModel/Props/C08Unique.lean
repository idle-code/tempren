import TemprenModel.Props.C08
/-!
# C08 — why one stable sort may stand for another

The model sorts with `List.mergeSort`; CPython's `sorted` is Timsort.  Both are *stable sorts*: the result is
ordered by the key and elements with equal keys keep their input order (also with `reverse=True`, which does not
reverse ties).  `sorted_unique`: those two facts determine the result — any list that is ordered by the key (in the
chosen direction) and has, for every key value, the same subsequence of elements with that key as the input, **is**
`pySorted key inv l`.  So the only thing trusted about `sorted()` is that it is a stable sort, not how it works; and the
check's correspondence stream compares exactly these two facts on the real sorter.
-/
namespace Tempren
namespace C08
variable {α : Type}

/-- two lists ordered by the key whose key classes agree (same elements, same order, for every key value) are equal -/
theorem ordered_classes_determine (key : α → List KeyAtom) (inv : Bool) (s t : List α)
    (hs : s.Pairwise (fun a b => sortLe key inv a b = true)) (ht : t.Pairwise (fun a b => sortLe key inv a b = true))
    (hcl : ∀ k, s.filter (fun a => key a = k) = t.filter (fun a => key a = k)) : s = t := by
  -- an element is in its own key class, so the two lists have the same elements
  have hmem : ∀ {s t : List α}, (∀ k, s.filter (fun a => key a = k) = t.filter (fun a => key a = k)) →
      ∀ x ∈ s, x ∈ t := fun h x hx =>
    (List.mem_filter.mp (h (key x) ▸ List.mem_filter.mpr ⟨hx, decide_eq_true rfl⟩)).1
  -- the head of an ordered list is below every element of it
  have hle : ∀ {a x : α} {s : List α}, (a :: s).Pairwise (fun a b => sortLe key inv a b = true) → x ∈ a :: s →
      sortLe key inv a x = true := fun h hx =>
    (List.mem_cons.mp hx).elim (fun e => sortLe_of_key_eq key inv _ _ (e ▸ rfl)) ((List.pairwise_cons.mp h).1 _)
  induction s generalizing t with
  | nil =>
    cases t with
    | nil => rfl
    | cons b t => cases hmem (fun k => (hcl k).symm) b List.mem_cons_self
  | cons a s ih =>
    cases t with
    | nil => cases hmem hcl a List.mem_cons_self
    | cons b t =>
      -- the heads are below each other, so they have the same key, and each is the head of that key's class
      have hk : key a = key b := sortLe_antisymm_key key inv a b
        (hle hs (hmem (fun k => (hcl k).symm) b List.mem_cons_self)) (hle ht (hmem hcl a List.mem_cons_self))
      have h0 := hcl (key a)
      rw [List.filter_cons_of_pos (by simp), List.filter_cons_of_pos (by simp [hk])] at h0
      cases (List.cons.inj h0).1
      rw [ih t hs.tail ht.tail fun k => ?_]
      have hk0 := hcl k
      simp only [List.filter_cons] at hk0
      split at hk0
      · exact (List.cons.inj hk0).2
      · exact hk0

/-- **A stable sort is unique.**  Whatever algorithm produced `s` from `l`: if `s` is ordered by the key (descending with
    `--sort-invert`) and elements with equal keys appear in `s` exactly as they do in `l`, then `s` is the model's
    `pySorted key inv l`. -/
theorem sorted_unique [DecidableEq α] (key : α → List KeyAtom) (inv : Bool) (l s : List α)
    (hordered : s.Pairwise (fun a b => sortLe key inv a b = true))
    (hstable : ∀ k, s.filter (fun a => key a = k) = l.filter (fun a => key a = k)) :
    s = pySorted key inv l := by
  refine ordered_classes_determine key inv s _ hordered (pySorted_pairwise key inv l) fun k => ?_
  rw [hstable k, sorted_stable key inv l k]

/-- in particular a stable sort's result is a permutation of its input (nothing lost, nothing duplicated) -/
theorem stable_sorted_perm [DecidableEq α] (key : α → List KeyAtom) (inv : Bool) (l s : List α)
    (hordered : s.Pairwise (fun a b => sortLe key inv a b = true))
    (hstable : ∀ k, s.filter (fun a => key a = k) = l.filter (fun a => key a = k)) : s.Perm l := by
  rw [sorted_unique key inv l s hordered hstable]
  exact sorted_perm key inv l

/-- non-vacuity: `[b1, a, b2]` with keys 2, 1, 2 — the list `[a, b1, b2]` meets both hypotheses (and `[a, b2, b1]` does
    not: it is not stable) -/
example :
    let key : Nat × Nat → List KeyAtom := fun x => [KeyAtom.int x.1]
    let l : List (Nat × Nat) := [(2, 1), (1, 0), (2, 2)]
    let s : List (Nat × Nat) := [(1, 0), (2, 1), (2, 2)]
    s.Pairwise (fun a b => sortLe key false a b = true) ∧
    (s.filter (fun a => key a = [KeyAtom.int 2]) = l.filter (fun a => key a = [KeyAtom.int 2])) ∧
    ([(1, 0), (2, 2), (2, 1)].filter (fun a => key a = [KeyAtom.int 2]) ≠ l.filter (fun a => key a = [KeyAtom.int 2])) := by
  decide

end C08
end Tempren

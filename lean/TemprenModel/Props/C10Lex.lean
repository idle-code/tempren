import TemprenModel.Model.Template
import TemprenModel.Lemmas.ListLemmas
/-!
# The lexer, one step at a time

Every rule of `lexStep` removes from the front of its input a non-empty piece `c :: w`, which is either the
source text of the token it emits or one layout character (`lexStep_spec`).  That the step shrinks its input,
that it drops nothing, and that the fuel `lex` gives `lexLoop` is enough all follow from this one statement.
-/
namespace Tempren
namespace C10

/-! ### the sub-lexers return a split of their input -/

theorem takeTextAux_append : ∀ (l : List Char) (prev : Bool), (takeTextAux prev l).1 ++ (takeTextAux prev l).2 = l := by
  intro l
  induction l with
  | nil => intro prev; simp [takeTextAux]
  | cons c t ih =>
    intro prev
    rw [takeTextAux]
    split <;> split <;> simp [ih]

theorem takeText_cons {c : Char} (hc : isTextStop c = false) (t : List Char) :
    takeText (c :: t) = (c :: (takeTextAux (c = '\\') t).1, (takeTextAux (c = '\\') t).2) := by
  simp only [isTextStop, Bool.decide_or, Bool.or_eq_false_iff, decide_eq_false_iff_not] at hc
  simp [takeText, takeTextAux, hc]

theorem takeText_stop {c : Char} (hc : isTextStop c = true) (t : List Char) : takeText (c :: t) = ([], c :: t) := by
  by_cases hb : isBraceOrPipe c = true
  · simp [takeText, takeTextAux, hb]
  · have : c = '%' ∨ isGlobalWs c = true := by simpa [isTextStop, hb] using hc
    simp [takeText, takeTextAux, hb, this]

theorem findHardEnd_at (q : Char) : ∀ (l : List Char) (prev : Bool) (i : Nat), findHardEnd q prev l = some i → l[i]? = some q
  | [], _, _, h => by simp [findHardEnd] at h
  | c :: t, prev, i, h => by
    rw [findHardEnd] at h
    split at h
    · cases h; simp [‹c = q ∧ prev = false›.1]
    · obtain ⟨j, hj, rfl⟩ := Option.map_eq_some_iff.mp h
      simpa using findHardEnd_at q t _ j hj

theorem findLastQuote_at (q : Char) : ∀ (l : List Char) (i : Nat), findLastQuote q l = some i → l[i]? = some q
  | [], _, h => by simp [findLastQuote] at h
  | c :: t, i, h => by
    rw [findLastQuote] at h
    split at h
    · cases h; simpa using findLastQuote_at q t _ ‹_›
    · split at h
      · cases h; simp [‹c = q›]
      · cases h

theorem takeString_append (q : Char) (l body rest : List Char) (h : takeString q l = some (body, rest)) :
    body ++ q :: rest = l := by
  unfold takeString at h
  split at h
  · rename_i i hi
    cases h
    apply take_cons_drop
    cases hh : findHardEnd q false l with
    | some j =>
      rw [hh] at hi; cases hi
      exact findHardEnd_at q l false _ hh
    | none =>
      rw [hh] at hi
      exact findLastQuote_at q l i hi
  · cases h

/-! ### what one step removes -/

/-- the source text of a token -/
def tokSrc : Tok → List Char
  | .tagStart => ['%'] | .pipe => ['|'] | .text s => s | .ctxStart => ['{'] | .ctxEnd => ['}']
  | .argsStart => ['('] | .dot => ['.'] | .tagId s => s
  | .argsEnd => [')'] | .sep => [','] | .eq => ['='] | .num s => s | .bool s => s
  | .str q body => q :: (body ++ [q]) | .argName s => s

/-- the layout characters a lexer rule may `-> skip` -/
def isLayout (c : Char) : Bool := c = ' ' ∨ isGlobalWs c

/-- `r` is a possible outcome of a step on `c :: t`: an error, or `c :: w` has been removed from the front,
    which is the source text of the token emitted or, when none is, a single layout character -/
def StepOk (c : Char) (t : List Char) (r : Option (Option Tok × Mode × List Char)) : Prop :=
  ∀ tok m' rest, r = some (tok, m', rest) →
    ∃ w, t = w ++ rest ∧ match tok with
      | some k => tokSrc k = c :: w
      | none => w = [] ∧ isLayout c = true

theorem StepOk.error {c t} : StepOk c t none := by
  intro _ _ _ h; cases h

theorem StepOk.skip {c t m} (h : isLayout c = true) : StepOk c t (some (none, m, t)) := by
  intro _ _ _ e; cases e; exact ⟨[], rfl, rfl, h⟩

theorem StepOk.tok {c t k m w rest} (hk : tokSrc k = c :: w) (ht : w ++ rest = t) :
    StepOk c t (some (some k, m, rest)) := by
  intro _ _ _ e; cases e; exact ⟨w, ht.symm, hk⟩

/-- a rule for a single character `x` -/
theorem StepOk.one {c x t k m y} (hk : tokSrc k = [x]) (hy : ¬ c = x → StepOk c t y) :
    StepOk c t (if c = x then some (some k, m, t) else y) :=
  iteInduction (fun h => .tok (h ▸ hk) rfl) hy

theorem lexStep_nil (m : Mode) : lexStep m [] = none := by cases m <;> rfl

theorem isIdChar_of_start {c : Char} (h : isIdStart c = true) : isIdChar c = true := by
  simp [isIdChar, h]

theorem lexStep_ok (m : Mode) (c : Char) (t : List Char) : StepOk c t (lexStep m (c :: t)) := by
  have ws : isGlobalWs c = true → isLayout c = true := fun h => by simp [isLayout, h]
  cases m with
  | D =>
    refine iteInduction (fun h => .skip (ws h)) fun hw => .one rfl fun h1 => .one rfl fun h2 => .one rfl fun h3 =>
      .one rfl fun h4 => ?_
    have hc : isTextStop c = false := by simp [isTextStop, isBraceOrPipe, hw, h1, h2, h3, h4]
    rw [takeText_cons hc]
    exact .tok rfl (takeTextAux_append t _)
  | T =>
    refine iteInduction (fun h => .skip (ws h)) fun _ => .one rfl fun _ => .one rfl fun _ => .one rfl fun _ =>
      iteInduction (fun h => ?_) fun _ => .error
    rw [span_cons (isIdChar_of_start h)]
    exact .tok rfl (span_append _ t)
  | A =>
    refine iteInduction (fun h => .skip (by simpa [isLayout] using h)) fun _ => .one rfl fun _ => .one rfl fun _ =>
      .one rfl fun _ => iteInduction (fun h => ?num) fun _ => iteInduction (fun h => ?neg) fun _ =>
      iteInduction (fun h => ?word) fun _ => iteInduction (fun _ => ?str) fun _ => .error
    case num =>
      rw [span_cons h]
      exact .tok rfl (span_append _ t)
    case neg =>
      cases t with
      | nil => exact .error
      | cons d u =>
        exact iteInduction (fun _ => .tok (h ▸ rfl) (span_append _ (d :: u))) fun _ => .error
    case word =>
      rw [span_cons (isIdChar_of_start h)]
      exact .tok (by split <;> rfl) (span_append _ t)
    case str =>
      cases hs : takeString c t with
      | none => exact .error
      | some r => exact .tok rfl (by simpa using takeString_append c t r.1 r.2 hs)

/-- what a successful step removes from the front of the input: a non-empty piece `c :: w`, the source text of
    the token emitted or else one layout character -/
theorem lexStep_spec {m : Mode} {l : List Char} {tok : Option Tok} {m' : Mode} {rest : List Char}
    (h : lexStep m l = some (tok, m', rest)) :
    ∃ c w, l = c :: w ++ rest ∧ match tok with
      | some k => tokSrc k = c :: w
      | none => w = [] ∧ isLayout c = true := by
  cases l with
  | nil => rw [lexStep_nil] at h; cases h
  | cons c t =>
    obtain ⟨w, rfl, hw⟩ := lexStep_ok m c t tok m' rest h
    exact ⟨c, w, rfl, hw⟩

/-- every lexer step consumes at least one character -/
theorem lexStep_shrinks (m : Mode) (l : List Char) (tok : Option Tok) (m' : Mode) (rest : List Char)
    (h : lexStep m l = some (tok, m', rest)) : rest.length < l.length := by
  obtain ⟨c, w, rfl, _⟩ := lexStep_spec h
  simp only [List.cons_append, List.length_cons, List.length_append]
  omega

/-! ### the lexer without its fuel -/

theorem lexLoop_fuel : ∀ (f f' : Nat) (m : Mode) (l : List Char), l.length < f → l.length < f' →
    lexLoop f m l = lexLoop f' m l := by
  intro f
  induction f with
  | zero => intro _ _ _ h; omega
  | succ f ih =>
    intro f' m l h h'
    obtain ⟨g, rfl⟩ : ∃ g, f' = g + 1 := ⟨f' - 1, by omega⟩
    simp only [lexLoop]
    split
    · rfl
    · cases hs : lexStep m l with
      | none => rfl
      | some r =>
        have := lexStep_shrinks m l r.1 r.2.1 r.2.2 hs
        dsimp only
        rw [ih g r.2.1 r.2.2 (by omega) (by omega)]

theorem lexLoop_enough : ∀ (n : Nat) (l : List Char) (m : Mode) (fuel : Nat), l.length ≤ n → l.length + 1 ≤ fuel →
    lexLoop fuel m l = lexLoop (l.length + 1) m l :=
  fun _ l m fuel _ h => lexLoop_fuel fuel _ m l (by omega) (by omega)

/-- the lexer with exactly the fuel `lex` gives it -/
def lexAll (m : Mode) (l : List Char) : Option (List Tok) := lexLoop (l.length + 1) m l

theorem lex_eq_lexAll (s : List Char) : lex s = lexAll .D s := rfl

theorem lexAll_nil (m : Mode) : lexAll m [] = some [] := by simp [lexAll, lexLoop]

def consTok (tok : Option Tok) (ts : List Tok) : List Tok :=
  match tok with
  | some t => t :: ts
  | none => ts

theorem lexAll_step (m : Mode) (l : List Char) (tok : Option Tok) (m' : Mode) (rest : List Char)
    (h : lexStep m l = some (tok, m', rest)) :
    lexAll m l = (lexAll m' rest).map (consTok tok) := by
  have hl : l ≠ [] := by rintro rfl; rw [lexStep_nil] at h; cases h
  have hs := lexStep_shrinks m l tok m' rest h
  show lexLoop (l.length + 1) m l = (lexLoop (rest.length + 1) m' rest).map (consTok tok)
  rw [lexLoop]
  simp only [hl, if_false, h]
  rw [lexLoop_fuel l.length (rest.length + 1) m' rest hs (by omega)]
  cases lexLoop (rest.length + 1) m' rest with
  | none => rfl
  | some ts => cases tok <;> rfl

/-- Printed text is followed through the lexer from the back: such a lemma turns what the lexer makes of the rest of the
    input into what it makes of a piece followed by that rest, so these lemmas compose by application. -/
theorem lexAll_tok {m m' : Mode} {l rest : List Char} {t : Tok} {ts : List Tok}
    (h : lexStep m l = some (some t, m', rest)) (hr : lexAll m' rest = some ts) : lexAll m l = some (t :: ts) := by
  rw [lexAll_step m l _ m' rest h, hr]; rfl

theorem lexAll_skip {m m' : Mode} {l rest : List Char} {ts : List Tok}
    (h : lexStep m l = some (none, m', rest)) (hr : lexAll m' rest = some ts) : lexAll m l = some ts := by
  rw [lexAll_step m l _ m' rest h, hr]; rfl

/-- and a character no rule recognises makes the lexer, hence the parser, reject (F5) -/
theorem unrecognised_rejected (m : Mode) (l : List Char)
    (hstep : lexStep m l = none) (hl : l ≠ []) : lexAll m l = none := by
  simp [lexAll, lexLoop, hl, hstep]

/-! ### what a step does, by the class of the first character -/

theorem ne_of_class {p : Char → Bool} {c x : Char} (hc : p c = true) (hx : p x = false) : c ≠ x :=
  fun e => by rw [e, hx] at hc; cases hc

theorem not_ws_of_class {p : Char → Bool} {c : Char} (hc : p c = true)
    (hp : p '\t' = false ∧ p '\n' = false ∧ p '\r' = false) : ¬ isGlobalWs c = true := by
  simp only [isGlobalWs, decide_eq_true_eq]
  exact not_or.mpr ⟨ne_of_class hc hp.1, not_or.mpr ⟨ne_of_class hc hp.2.1, ne_of_class hc hp.2.2⟩⟩

theorem not_blank_of_class {p : Char → Bool} {c : Char} (hc : p c = true)
    (hp : p ' ' = false ∧ p '\t' = false ∧ p '\n' = false ∧ p '\r' = false) : ¬ (c = ' ' ∨ isGlobalWs c = true) :=
  not_or.mpr ⟨ne_of_class hc hp.1, not_ws_of_class hc hp.2⟩

theorem digit_not_idstart {c : Char} (h : isDigitChar c = true) : ¬ isIdStart c = true := by
  simp only [isDigitChar, isIdStart, Char.le_def, UInt32.le_iff_toNat_le, Bool.decide_or, Bool.decide_and, Bool.or_eq_true,
    Bool.and_eq_true, decide_eq_true_eq, Char.reduceVal, UInt32.reduceToNat] at h ⊢
  rintro (h' | h' | rfl)
  · omega
  · omega
  · simp at h

theorem lexStep_D_text {l : List Char} (h : (takeText l).1 ≠ []) :
    lexStep .D l = some (some (.text (takeText l).1), .D, (takeText l).2) := by
  cases l with
  | nil => exact absurd rfl h
  | cons c t =>
    cases hc : isTextStop c with
    | true => rw [takeText_stop hc] at h; exact absurd rfl h
    | false =>
      simp [isTextStop, isBraceOrPipe] at hc
      obtain ⟨h1, ⟨h3, h4, h2⟩, hw⟩ := hc
      exact (if_neg (by simp [hw])).trans <| (if_neg h1).trans <| (if_neg h2).trans <| (if_neg h3).trans <| if_neg h4

theorem lexStep_T_id {c : Char} (hc : isIdStart c = true) (t : List Char) :
    lexStep .T (c :: t) = some (some (.tagId ((c :: t).span isIdChar).1), .T, ((c :: t).span isIdChar).2) :=
  (if_neg (not_ws_of_class hc (by decide))).trans <| (if_neg (ne_of_class hc (by decide))).trans <|
    (if_neg (ne_of_class hc (by decide))).trans <| (if_neg (ne_of_class hc (by decide))).trans <| if_pos hc

theorem lexStep_A_num {c : Char} (hc : isDigitChar c = true) (t : List Char) :
    lexStep .A (c :: t) = some (some (.num ((c :: t).span isDigitChar).1), .A, ((c :: t).span isDigitChar).2) :=
  (if_neg (not_blank_of_class hc (by decide))).trans <| (if_neg (ne_of_class hc (by decide))).trans <|
    (if_neg (ne_of_class hc (by decide))).trans <| (if_neg (ne_of_class hc (by decide))).trans <| if_pos hc

theorem lexStep_A_word {c : Char} (hc : isIdStart c = true) (t : List Char) :
    lexStep .A (c :: t) =
      some (some (if ((c :: t).span isIdChar).1 ∈ boolWords then .bool ((c :: t).span isIdChar).1
        else .argName ((c :: t).span isIdChar).1), .A, ((c :: t).span isIdChar).2) :=
  (if_neg (not_blank_of_class hc (by decide))).trans <| (if_neg (ne_of_class hc (by decide))).trans <|
    (if_neg (ne_of_class hc (by decide))).trans <| (if_neg (ne_of_class hc (by decide))).trans <|
    (if_neg fun h => digit_not_idstart h hc).trans <| (if_neg (ne_of_class hc (by decide))).trans <| if_pos hc

theorem lexStep_A_neg {d : Char} (hd : isDigitChar d = true) (t : List Char) :
    lexStep .A ('-' :: d :: t) =
      some (some (.num ('-' :: ((d :: t).span isDigitChar).1)), .A, ((d :: t).span isDigitChar).2) :=
  if_pos hd

theorem lexStep_A_str {q : Char} (hq : q = '\'' ∨ q = '"') (t : List Char) :
    lexStep .A (q :: t) =
      match takeString q t with
      | some (body, rest) => some (some (.str q body), .A, rest)
      | none => none := by
  rcases hq with rfl | rfl <;> rfl

variable {X : List Char} {ts : List Tok}

theorem lexAll_D_tagStart (h : lexAll .T X = some ts) : lexAll .D ('%' :: X) = some (.tagStart :: ts) := lexAll_tok rfl h
theorem lexAll_D_pipe (h : lexAll .D X = some ts) : lexAll .D ('|' :: X) = some (.pipe :: ts) := lexAll_tok rfl h
theorem lexAll_D_ctxStart (h : lexAll .D X = some ts) : lexAll .D ('{' :: X) = some (.ctxStart :: ts) := lexAll_tok rfl h
theorem lexAll_D_ctxEnd (h : lexAll .D X = some ts) : lexAll .D ('}' :: X) = some (.ctxEnd :: ts) := lexAll_tok rfl h
theorem lexAll_T_argsStart (h : lexAll .A X = some ts) : lexAll .T ('(' :: X) = some (.argsStart :: ts) := lexAll_tok rfl h
theorem lexAll_T_dot (h : lexAll .T X = some ts) : lexAll .T ('.' :: X) = some (.dot :: ts) := lexAll_tok rfl h
theorem lexAll_A_argsEnd (h : lexAll .D X = some ts) : lexAll .A (')' :: X) = some (.argsEnd :: ts) := lexAll_tok rfl h
theorem lexAll_A_sep (h : lexAll .A X = some ts) : lexAll .A (',' :: X) = some (.sep :: ts) := lexAll_tok rfl h
theorem lexAll_A_eq (h : lexAll .A X = some ts) : lexAll .A ('=' :: X) = some (.eq :: ts) := lexAll_tok rfl h
theorem lexAll_A_blank (h : lexAll .A X = some ts) : lexAll .A (' ' :: X) = some ts := lexAll_skip rfl h

end C10
end Tempren

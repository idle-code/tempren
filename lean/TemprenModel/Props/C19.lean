import TemprenModel.Lemmas.HashLemmas
/-!
# C19 — Hash tags equal the standard digests of the whole file

Proved: the chunked read loop feeds exactly the file's bytes, in order, in non-empty
pieces, and stops at EOF, for every content and every positive chunk size; therefore
*any* streaming hash computed chunk-wise equals the one-shot hash; the same for the
chained CRC-32; the `:08x` rendering is 8 lowercase hex digits denoting the value.
Trusted: hashlib's MD5/SHA objects are streaming (checked on samples by the harness) and
compute the standard digests; `zlib.crc32` equals the bit-level definition (checked by
correspondence).
-/
namespace Tempren
namespace C19

theorem chunks_flatten {α : Type} (n : Nat) (hn : 0 < n) (bs : List α) :
    (chunks n bs).flatten = bs := by
  induction bs using chunks.induct n with
  | case1 bs h =>
    rw [chunks, dif_pos h]
    rcases h with h | h
    · omega
    · rw [h]; rfl
  | case2 bs h ih => rw [chunks, dif_neg h, List.flatten_cons, ih, List.take_append_drop]

theorem chunks_nonempty {α : Type} (n : Nat) (bs : List α) :
    ∀ c ∈ chunks n bs, c ≠ [] ∧ c.length ≤ n := by
  induction bs using chunks.induct n with
  | case1 bs h => rw [chunks, dif_pos h]; simp
  | case2 bs h ih =>
    rw [chunks, dif_neg h]
    intro c hc
    rcases List.mem_cons.mp hc with rfl | hc
    · exact ⟨fun e => h (List.take_eq_nil_iff.mp e), by rw [List.length_take]; omega⟩
    · exact ih c hc

/-- the loop ends at once exactly on an empty file -/
theorem chunks_empty_iff {α : Type} (n : Nat) (hn : 0 < n) (bs : List α) :
    chunks n bs = [] ↔ bs = [] := by
  constructor
  · intro h
    rw [← chunks_flatten n hn bs, h, List.flatten_nil]
  · intro h
    rw [h, chunks, dif_pos (.inr rfl)]

/-- **chunked = one-shot** for every streaming hash, every content, every chunk size > 0 -/
theorem chunked_eq_oneshot {S B : Type} (H : StreamHash S B)
    (hnil : ∀ s, H.update s [] = s)
    (happ : ∀ s a b, H.update (H.update s a) b = H.update s (a ++ b))
    (n : Nat) (hn : 0 < n) (bs : List B) :
    hashChunked H n bs = H.update H.init bs := by
  unfold hashChunked
  rw [foldl_update_flatten H.update hnil happ, chunks_flatten n hn]

/-- CRC-32 is streaming: `crc32(b, crc32(a, p)) = crc32(a ++ b, p)` -/
theorem crc_chain (p : UInt32) (a b : List UInt8) :
    crc32Update (crc32Update p a) b = crc32Update p (a ++ b) := by
  unfold crc32Update
  rw [xor_ff_ff, List.foldl_append]

/-- the tag's chained CRC equals the CRC of the whole content -/
theorem crc32Chunked_eq (n : Nat) (hn : 0 < n) (bs : List UInt8) : crc32Chunked n bs = crc32 bs :=
  chunked_eq_oneshot ⟨0, crc32Update⟩ crc_nil crc_chain n hn bs

/-- with the chunk size the source defines (extracted E2) -/
theorem crc32Tag_eq (bs : List UInt8) : crc32Tag bs = hex8 (crc32 bs) := by
  unfold crc32Tag
  rw [crc32Chunked_eq _ (by decide)]

/-- `:08x`: exactly eight lowercase hex digits (zero-padded), denoting the value -/
theorem hex8_spec (v : UInt32) :
    (hex8 v).length = 8 ∧ (∀ c ∈ hex8 v, ('0' ≤ c ∧ c ≤ '9') ∨ ('a' ≤ c ∧ c ≤ 'f')) ∧
    parseHex (hex8 v) = v.toNat := by
  refine ⟨length_hexN _ _, hexN_lower _ _, ?_⟩
  unfold hex8
  rw [parseHex_hexN]
  exact Nat.mod_eq_of_lt (by have := v.toNat_lt; omega)

/-- Non-vacuity: a 10-element content in chunks of 4. -/
example : chunks 4 [1,2,3,4,5,6,7,8,9,10] = [[1,2,3,4],[5,6,7,8],[9,10]] := by
  simp [chunks]

end C19
end Tempren

import TemprenModel.Props.C05
/-!
# C05 — name mode with custom answers at the conflict prompt

`C05.dry_run_predicts_name_mode` excludes custom answers.  A custom path typed at the prompt is used as the new
destination of the file in conflict (after the containment check, F18).  If every custom answer of the script is, for
every selected file, again a name-mode call (a plain name in the file's own directory, not naming a directory — e.g. all
files in one directory and fresh names typed), the simulation covers it: the dry run and the real run report the same
renames, in the same order, with the same override markers, end alike, **and end in related states** (a path exists in
the real tree iff it exists virtually).
-/
namespace Tempren
namespace C05

/-- **C05, name mode, any answers.**  On a link-free tree, for every file list, plan, order, strategy and scripted
    answers — stop, ignore, override and custom paths alike — all of whose calls have the name-mode shape, the dry run
    predicts the real run: same reported renames, same outcome, and the final real tree has exactly the paths the dry run
    ends with virtually. -/
theorem dry_run_predicts_name_mode_custom (base : FS) (hw : WF base) (hl : LinkFree base)
    (files : List FileRec) (gen : Nat → Gen) (strategy : Strategy) (answers : List Answer)
    (hplan : ∀ k f, files[k]? = some f → ∀ p, gen k = .path p → p ≠ f.rel → NameCall base f.inputDir f.rel p)
    (hcust : ∀ f ∈ files, ∀ q, Answer.custom q ∈ answers → NameCall base f.inputDir f.rel q) :
    (execute realNameRenamer { fs := base } files gen strategy answers).1.events =
      (execute dryRenamer { base := base } files gen strategy answers).1.events ∧
    (execute realNameRenamer { fs := base } files gen strategy answers).2 =
      (execute dryRenamer { base := base } files gen strategy answers).2 ∧
    (∀ p, lexists (execute realNameRenamer { fs := base } files gen strategy answers).1.st.fs p =
      vexists (execute dryRenamer { base := base } files gen strategy answers).1.st p) := by
  obtain ⟨hev, hout, _, _, _, _, _, _, hex⟩ :=
    runs_agree_on (name_mode_simulation base) _ _ (.init hw hl) files gen strategy answers hplan hcust
  exact ⟨hev, hout, hex⟩

/-- the hypotheses are satisfiable: `a` is to be renamed onto `b`; the user answers the prompt with the fresh name `z` -/
example :
    let base : FS := [⟨["in".toList], 1, .dir, 0⟩, ⟨["in".toList, "a".toList], 2, .file, 1⟩,
                      ⟨["in".toList, "b".toList], 3, .file, 2⟩]
    NameCall base ["in".toList] ⟨false, ["a".toList]⟩ ⟨false, ["b".toList]⟩ ∧
    NameCall base ["in".toList] ⟨false, ["a".toList]⟩ ⟨false, ["z".toList]⟩ := by
  intro base
  exact ⟨.top (by decide),
    .top (by decide)⟩

end C05
end Tempren

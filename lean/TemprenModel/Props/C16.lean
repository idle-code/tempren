import TemprenModel.Lemmas.CountLemmas
import TemprenModel.Lemmas.IntLemmas
/-!
# C16 — Count yields a gap-free arithmetic sequence per directory (or globally)
-/
namespace Tempren
namespace C16
set_option linter.unusedSectionVars false
variable {D : Type} [DecidableEq D]

/-- number of earlier calls that share the counter with a call for `d` -/
def occ (t : CountTag D) (d : D) (pre : List D) : Nat :=
  if t.common.isSome then pre.length else pre.count d

/-- one more earlier call counts exactly when it advances the counter of `d` -/
theorem occ_cons (t : CountTag D) (d e : D) (pre : List D) :
    occ t d (e :: pre) = occ (t.process e).2 d pre + if t.common.isSome ∨ d = e then 1 else 0 := by
  unfold occ
  rw [process_common_isSome]
  by_cases hc : t.common.isSome = true
  · simp [hc]
  · simp [hc, List.count_cons, eq_comm (a := e)]

/-- The call made after the calls `pre`, for directory `d`, returns the rendering of
    `counter + occ·step` — whatever the interleaving `pre`, whatever follows. -/
theorem count_kth_from (t : CountTag D) (pre : List D) (d : D) (post : List D) :
    (t.run (pre ++ d :: post))[pre.length]? =
      some (t.render (t.counterOf d + (occ t d pre : Int) * t.step)) := by
  induction pre generalizing t with
  | nil => simp [CountTag.run, process_value, occ]
  | cons e pre ih =>
    simp only [List.cons_append, CountTag.run, List.length_cons, List.getElem?_cons_succ]
    rw [ih, render_congr t _ (process_width t e), process_step, counterOf_process]
    congr 2
    rw [occ_cons]
    split <;> simp [Int.add_mul] <;> omega

theorem configure_eq (start step width : Int) (common : Bool) :
    (CountTag.configure start step width common : Option (CountTag D)) =
      if start < 0 ∨ step = 0 ∨ width < 0 then none
      else some { start := start, step := step, width := width.toNat,
                  common := if common then some start else none, perDir := [] } := by
  fun_cases CountTag.configure start step width common <;> simp [*]

/-- a freshly configured tag starts every counter at `start` -/
theorem configure_counter (start step width : Int) (common : Bool) (t : CountTag D)
    (h : CountTag.configure start step width common = some t) (d : D) :
    t.counterOf d = start ∧ t.step = step ∧ t.common.isSome = common := by
  rw [configure_eq] at h
  split at h
  · cases h
  · obtain rfl := Option.some.inj h
    cases common <;> exact ⟨rfl, rfl, rfl⟩

/-- **Count is an arithmetic sequence**: after `configure(start, step, width, common)` the
    k-th call for a directory (k-th call overall with `common`) yields `start + k·step`
    (rendered), for every interleaving of directories. -/
theorem count_kth (start step width : Int) (common : Bool) (t : CountTag D)
    (h : CountTag.configure start step width common = some t)
    (pre : List D) (d : D) (post : List D) :
    (t.run (pre ++ d :: post))[pre.length]? =
      some (t.render (start + ((if common then pre.length else pre.count d : Nat) : Int) * step)) := by
  obtain ⟨h1, h2, h3⟩ := configure_counter start step width common t h d
  rw [count_kth_from, h1, h2]
  unfold occ
  rw [h3]

/-- per-directory counters are independent: only earlier calls *for the same directory* matter -/
theorem count_independent_dirs (start step width : Int) (t : CountTag D)
    (h : CountTag.configure start step width false = some t)
    (pre pre' : List D) (d : D) (post post' : List D) (hc : pre.count d = pre'.count d) :
    (t.run (pre ++ d :: post))[pre.length]? = (t.run (pre' ++ d :: post'))[pre'.length]? := by
  rw [count_kth _ _ _ _ _ h, count_kth _ _ _ _ _ h]; simp [hc]

/-- the sequence has no repeats: different positions give different numbers (step ≠ 0) -/
theorem count_values_distinct (start step : Int) (k k' : Nat) (hs : step ≠ 0) (hk : k ≠ k') :
    start + (k : Int) * step ≠ start + (k' : Int) * step := by
  intro h
  have h' : ((k : Int) - k') * step = 0 := by rw [Int.sub_mul]; omega
  rcases Int.mul_eq_zero.mp h' with h0 | h0
  · omega
  · exact hs h0

/-- values are rejected exactly when negative -/
theorem render_none_iff (t : CountTag D) (v : Int) : t.render v = none ↔ v < 0 := by
  unfold CountTag.render
  split
  · simp [*]
  · split <;> simp [*]

/-- the string form is produced exactly when a width is requested -/
theorem render_shape (t : CountTag D) (v : Int) (hv : 0 ≤ v) :
    t.render v = some (if t.width ≠ 0 then .str (zfill t.width (natDigits v.toNat)) else .int v.toNat) := by
  unfold CountTag.render
  have : ¬ v < 0 := by omega
  simp only [this, if_false]
  split <;> rfl

theorem render_denotes (t : CountTag D) (v : Int) (x : CountVal) (h : t.render v = some x) :
    0 ≤ v ∧ parseDigits x.toStr = v.toNat := by
  have hv : ¬ v < 0 := fun hn => by rw [(render_none_iff t v).mpr hn] at h; cases h
  rw [render_shape t v (by omega)] at h
  obtain rfl := Option.some.inj h
  refine ⟨by omega, ?_⟩
  split <;> simp only [CountVal.toStr, parseDigits_zfill, parseDigits_natDigits]

/-- rendering never truncates and is injective, as a value and as text in a name -/
theorem render_toStr_injective (t : CountTag D) (a b : Int) (x y : CountVal)
    (ha : t.render a = some x) (hb : t.render b = some y) (h : x.toStr = y.toStr) : a = b := by
  obtain ⟨ha0, ha⟩ := render_denotes t a x ha
  obtain ⟨hb0, hb⟩ := render_denotes t b y hb
  rw [h, hb] at ha
  omega

/-- names built from Count never collide within one counter's sequence -/
theorem count_names_never_collide (t : CountTag D) (start step : Int) (k k' : Nat)
    (hs : step ≠ 0) (hk : k ≠ k') (x y : CountVal)
    (hx : t.render (start + (k : Int) * step) = some x)
    (hy : t.render (start + (k' : Int) * step) = some y) : x.toStr ≠ y.toStr :=
  fun h => count_values_distinct start step k k' hs hk (render_toStr_injective t _ _ x y hx hy h)

/-- `zfill`: at least `w` characters, the number is a suffix (never truncated), only zeros
    are added, and the padded text still denotes the same number. -/
theorem zfill_spec (w : Nat) (n : Nat) :
    (zfill w (natDigits n)).length = max w (natDigits n).length ∧
    natDigits n <:+ zfill w (natDigits n) ∧
    (∃ k, zfill w (natDigits n) = List.replicate k '0' ++ natDigits n) ∧
    parseDigits (zfill w (natDigits n)) = n := by
  refine ⟨length_zfill _ _, ?_, ⟨_, rfl⟩, ?_⟩
  · exact List.suffix_append _ _
  · rw [parseDigits_zfill, parseDigits_natDigits]

/-- invalid parameters are rejected by `configure` -/
theorem configure_rejects (start step width : Int) (common : Bool) :
    (start < 0 ∨ step = 0 ∨ width < 0) ↔ (CountTag.configure start step width common : Option (CountTag D)) = none := by
  rw [configure_eq]
  split <;> simp [*]

/-- Non-vacuity: an interleaving over two directories, step 5 from 10. -/
example : ∃ t : CountTag String, CountTag.configure 10 5 0 false = some t ∧
    t.run ["a", "b", "a", "a", "b"] =
      [some (.int 10), some (.int 10), some (.int 15), some (.int 20), some (.int 15)] := by
  refine ⟨_, rfl, ?_⟩; decide

/-- Non-vacuity: a negative step runs into the rejected range. -/
example : ∃ t : CountTag String, CountTag.configure 1 (-1) 0 true = some t ∧
    t.run ["a", "b", "a"] = [some (.int 1), some (.int 0), none] := by
  refine ⟨_, rfl, ?_⟩; decide

end C16
end Tempren

import TemprenModel.Model.Count
namespace Tempren
variable {D : Type} [DecidableEq D]

theorem assocGet_assocSet (m : List (D × Int)) (d d' : D) (x dflt : Int) :
    assocGet (assocSet m d x) d' dflt = if d' = d then x else assocGet m d' dflt := by
  induction m with
  | nil => simp only [assocSet, assocGet, eq_comm]
  | cons kv t ih =>
    obtain ⟨k, v⟩ := kv
    simp only [assocSet]
    by_cases hk : k = d
    · subst hk
      simp only [if_true, assocGet, eq_comm (a := d')]
      split <;> simp [*]
    · simp only [hk, if_false, assocGet, ih]
      by_cases h : k = d'
      · subst h; simp [hk]
      · simp [h]
@[simp] theorem process_step (t : CountTag D) (d : D) : (t.process d).2.step = t.step := by
  unfold CountTag.process; cases t.common <;> rfl
@[simp] theorem process_width (t : CountTag D) (d : D) : (t.process d).2.width = t.width := by
  unfold CountTag.process; cases t.common <;> rfl
@[simp] theorem process_start (t : CountTag D) (d : D) : (t.process d).2.start = t.start := by
  unfold CountTag.process; cases t.common <;> rfl
@[simp] theorem process_common_isSome (t : CountTag D) (d : D) :
    (t.process d).2.common.isSome = t.common.isSome := by
  unfold CountTag.process; cases t.common <;> rfl

theorem process_value (t : CountTag D) (d : D) : (t.process d).1 = t.render (t.counterOf d) := by
  unfold CountTag.process; rfl

omit [DecidableEq D] in
theorem render_congr (t t' : CountTag D) (h : t'.width = t.width) (v : Int) : t'.render v = t.render v := by
  unfold CountTag.render; rw [h]

theorem counterOf_process (t : CountTag D) (d d' : D) :
    (t.process d).2.counterOf d' =
      if t.common.isSome ∨ d' = d then t.counterOf d' + t.step else t.counterOf d' := by
  unfold CountTag.process CountTag.counterOf
  cases hc : t.common with
  | some c => simp
  | none =>
    simp only [Option.isSome_none, Bool.false_eq_true, false_or]
    rw [assocGet_assocSet]
    by_cases h : d' = d <;> simp [h]

end Tempren

import TemprenModel.Model.PyRepr
import TemprenModel.Lemmas.HashLemmas
/-!
The scanner of string literals reads back what `repr` writes, escape by escape (`reprChar_scan`, `reprBody_scan`); the
numeric escapes are `hexN` digit strings, whose lemmas are in HashLemmas.
-/
namespace Tempren

theorem scanBody_quote (q : Char) (k : List Char) : scanBody q (q :: k) = some ([], k) := by
  simp [scanBody, scanGo]

theorem scanBody_plain (q c : Char) (k : List Char) (h1 : c ≠ q) (h2 : c ≠ '\n') (h3 : c ≠ bsl) :
    scanBody q (c :: k) = consResult c (scanBody q k) := by
  simp [scanBody, scanGo, h1, h2, h3]

theorem scanBody_bsl (q : Char) (k : List Char) (hq : q ≠ bsl) :
    scanBody q (bsl :: k) = scanGo q .esc k := by
  have h1 : bsl ≠ q := fun h => hq h.symm
  have h2 : bsl ≠ '\n' := by decide
  simp [scanBody, scanGo, h1, h2]

theorem scanGo_esc_letter (q e c : Char) (k : List Char)
    (h : (e, c) ∈ [(bsl, bsl), (sq, sq), (dq, dq), ('n', '\n'), ('t', '\t'), ('r', '\r')]) :
    scanGo q .esc (e :: k) = consResult c (scanBody q k) := by
  simp only [List.mem_cons, Prod.mk.injEq, List.not_mem_nil, or_false] at h
  rcases h with ⟨rfl, rfl⟩ | ⟨rfl, rfl⟩ | ⟨rfl, rfl⟩ | ⟨rfl, rfl⟩ | ⟨rfl, rfl⟩ | ⟨rfl, rfl⟩ <;> rfl

theorem scanGo_esc_hex (q e : Char) (n : Nat) (k : List Char)
    (h : (e, n) ∈ [('x', 2), ('u', 4), ('U', 8)]) :
    scanGo q .esc (e :: k) = scanGo q (.hex n 0) k := by
  simp only [List.mem_cons, Prod.mk.injEq, List.not_mem_nil, or_false] at h
  rcases h with ⟨rfl, rfl⟩ | ⟨rfl, rfl⟩ | ⟨rfl, rfl⟩ <;> rfl

/-- the digits of a numeric escape are read as the number they write, for any number of digits -/
theorem scanGo_hex (q : Char) (ds k : List Char) (acc : Nat) (hne : 0 < ds.length)
    (hd : ∀ c ∈ ds, isHexDigit c = true) :
    scanGo q (.hex ds.length acc) (ds ++ k) =
      consResult (Char.ofNat (ds.foldl (fun a c => a * 16 + hexVal c) acc)) (scanBody q k) := by
  induction ds generalizing acc with
  | nil => cases hne
  | cons d t ih =>
    have hd' : isHexDigit d = true := hd d (by simp)
    cases t with
    | nil => simp [scanGo, hd', scanBody]
    | cons d' t' =>
      have := ih (acc * 16 + hexVal d) (by simp) (fun c hc => hd c (by simp [hc]))
      simpa [scanGo, hd'] using this

theorem scanBody_esc_letter (q e c : Char) (k : List Char) (hq : q ≠ bsl)
    (h : (e, c) ∈ [(bsl, bsl), (sq, sq), (dq, dq), ('n', '\n'), ('t', '\t'), ('r', '\r')]) :
    scanBody q (bsl :: e :: k) = consResult c (scanBody q k) := by
  rw [scanBody_bsl q _ hq, scanGo_esc_letter q e c k h]

theorem scanBody_esc_hex (q e c : Char) (n : Nat) (k : List Char) (hq : q ≠ bsl)
    (h : (e, n) ∈ [('x', 2), ('u', 4), ('U', 8)]) (hc : c.toNat < 16 ^ n) :
    scanBody q (bsl :: e :: hexN n c.toNat ++ k) = consResult c (scanBody q k) := by
  have hn : 0 < (hexN n c.toNat).length := by
    simp only [List.mem_cons, Prod.mk.injEq, List.not_mem_nil, or_false] at h
    rw [length_hexN]; omega
  have := scanGo_hex q (hexN n c.toNat) k 0 hn (fun d hd => decide_eq_true (hexN_lower n _ d hd))
  rw [length_hexN] at this
  rw [List.cons_append, List.cons_append, scanBody_bsl q _ hq, scanGo_esc_hex q e n _ h, this]
  show consResult (Char.ofNat (parseHex (hexN n c.toNat))) _ = _
  rw [parseHex_hexN, Nat.mod_eq_of_lt hc, Char.ofNat_toNat]

theorem reprChar_scan (pr : Char → Bool) (q c : Char) (k : List Char) (hq : q = sq ∨ q = dq) :
    scanBody q (reprChar pr q c ++ k) = consResult c (scanBody q k) := by
  have hqb : q ≠ bsl := by rcases hq with rfl | rfl <;> decide
  have plain : ¬ (c = q ∨ c = bsl) → c ≠ '\n' → scanBody q ([c] ++ k) = consResult c (scanBody q k) :=
    fun h hn => scanBody_plain q c k (fun e => h (.inl e)) hn (fun e => h (.inr e))
  fun_cases reprChar pr q c
  · rename_i h
    refine scanBody_esc_letter q c c k hqb ?_
    rcases h with rfl | rfl
    · rcases hq with rfl | rfl <;> simp
    · simp
  · exact ‹c = '\t'› ▸ scanBody_esc_letter q 't' '\t' k hqb (by simp)
  · exact ‹c = '\n'› ▸ scanBody_esc_letter q 'n' '\n' k hqb (by simp)
  · exact ‹c = '\r'› ▸ scanBody_esc_letter q 'r' '\r' k hqb (by simp)
  · exact scanBody_esc_hex q 'x' c 2 k hqb (by simp) (by omega)
  · exact plain ‹_› ‹_›
  · exact plain ‹_› ‹_›
  · exact scanBody_esc_hex q 'x' c 2 k hqb (by simp) ‹_›
  · exact scanBody_esc_hex q 'u' c 4 k hqb (by simp) ‹_›
  · exact scanBody_esc_hex q 'U' c 8 k hqb (by simp) c.val.toNat_lt

theorem reprBody_scan (pr : Char → Bool) (q : Char) (hq : q = sq ∨ q = dq) (s rest : List Char) :
    scanBody q (reprBody pr q s ++ q :: rest) = some (s, rest) := by
  induction s with
  | nil => simpa [reprBody] using scanBody_quote q rest
  | cons c t ih =>
    have : reprBody pr q (c :: t) ++ q :: rest = reprChar pr q c ++ (reprBody pr q t ++ q :: rest) := by
      simp [reprBody]
    rw [this, reprChar_scan pr q c _ hq, ih]
    rfl

theorem reprQuote_cases (s : List Char) : reprQuote s = sq ∨ reprQuote s = dq := by
  unfold reprQuote; split <;> simp

end Tempren

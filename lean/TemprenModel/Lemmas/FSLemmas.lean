import TemprenModel.Model.Renamer
import TemprenModel.Lemmas.ListLemmas
/-!
The abstract file system, through lemmas: what `find`, `lexists`, `isDirAt`, `hasChildren`, `walk`, `rekey`
compute; when `mkdirAbs`, `renameAbs` and `RealState.prim` succeed and what they then return (`*_ok_iff`);
the tree invariant `WF` and the one fact about trees everything else uses (`isDirAt_of_below`: what has something
below it is a directory); `renameAbs_WF`, `renameAbs_leaves`: every successful `rename(2)` keeps the tree a
tree, and keeps the leaves unless it replaces one; and one `*_cases` lemma per renamer-level operation: it refuses and
leaves the state alone, or is one primitive on the resolved paths (`mkdir -p`: a sequence of `mkdir`s).
-/
namespace Tempren

theorem find_some_mem {fs : FS} {p : APath} {e : Entry} (h : fs.find p = some e) : e ∈ fs ∧ e.path = p :=
  ⟨List.mem_of_find?_eq_some h, by simpa using List.find?_some h⟩

theorem find_none_iff {fs : FS} {p : APath} : fs.find p = none ↔ ∀ e ∈ fs, e.path ≠ p := by
  simp [FS.find]

theorem nodup_find {fs : FS} (hn : pathsNodup fs) {e : Entry} (he : e ∈ fs) : fs.find e.path = some e := by
  cases h : fs.find e.path with
  | none => exact absurd rfl (find_none_iff.mp h e he)
  | some e' => rw [uniq_of_nodup_map Entry.path fs hn e' (find_some_mem h).1 e he (find_some_mem h).2]

theorem find_eq_some_iff {fs : FS} (hn : pathsNodup fs) {p : APath} {e : Entry} :
    fs.find p = some e ↔ e ∈ fs ∧ e.path = p :=
  ⟨find_some_mem, fun ⟨he, hp⟩ => hp ▸ nodup_find hn he⟩

theorem filter_ne_of_find_none {fs : FS} {b : APath} (h : fs.find b = none) :
    fs.filter (fun e => e.path ≠ b) = fs :=
  List.filter_eq_self.mpr fun e he => by simpa using find_none_iff.mp h e he

theorem lexists_iff_find {fs : FS} {p : APath} : lexists fs p = true ↔ p = [] ∨ ∃ e, fs.find p = some e := by
  unfold lexists
  by_cases hp : p = []
  · simp [hp]
  · simp [hp, Option.isSome_iff_exists]

theorem isDirAt_iff_find {fs : FS} {p : APath} :
    isDirAt fs p = true ↔ p = [] ∨ ∃ e, fs.find p = some e ∧ e.kind = .dir := by
  unfold isDirAt
  by_cases hp : p = []
  · simp [hp]
  · cases hf : fs.find p <;> simp [hp]

theorem lexists_iff {fs : FS} (q : APath) : lexists fs q = true ↔ q = [] ∨ ∃ d ∈ fs, d.path = q := by
  rw [lexists_iff_find]
  refine or_congr_right ⟨fun ⟨e, h⟩ => ⟨e, find_some_mem h⟩, fun ⟨d, hd, hp⟩ => ?_⟩
  cases hf : fs.find q with
  | none => exact absurd hp (find_none_iff.mp hf d hd)
  | some e => exact ⟨e, rfl⟩

theorem isDirAt_iff {fs : FS} (hn : pathsNodup fs) (q : APath) :
    isDirAt fs q = true ↔ q = [] ∨ ∃ d ∈ fs, d.path = q ∧ d.kind = .dir := by
  rw [isDirAt_iff_find]
  exact or_congr_right ⟨fun ⟨e, h, hk⟩ => ⟨e, (find_some_mem h).1, (find_some_mem h).2, hk⟩,
    fun ⟨d, hd, hp, hk⟩ => ⟨d, (find_eq_some_iff hn).mpr ⟨hd, hp⟩, hk⟩⟩

theorem isDirAt_lexists {fs : FS} {p : APath} (h : isDirAt fs p = true) : lexists fs p = true :=
  lexists_iff_find.mpr ((isDirAt_iff_find.mp h).imp_right fun ⟨e, he, _⟩ => ⟨e, he⟩)

theorem kind_of_not_isDirAt {fs : FS} {p : APath} {e : Entry} (h : isDirAt fs p = false) (hf : fs.find p = some e) :
    e.kind ≠ .dir := fun hk => by
  rw [isDirAt_iff_find.mpr (Or.inr ⟨e, hf, hk⟩)] at h; cases h

theorem ne_nil_of_not_isDirAt {fs : FS} {p : APath} (h : isDirAt fs p = false) : p ≠ [] := fun h0 => by
  rw [h0] at h; cases h

theorem not_isDirAt {fs : FS} {p : APath} (hp : p ≠ []) (h : ∀ e, fs.find p = some e → e.kind ≠ .dir) :
    isDirAt fs p = false := by
  rw [Bool.eq_false_iff, Ne, isDirAt_iff_find]
  rintro (h0 | ⟨e, he, hk⟩)
  · exact hp h0
  · exact h e he hk

theorem hasChildren_eq_false {fs : FS} {p : APath} :
    hasChildren fs p = false ↔ ∀ e ∈ fs, p <+: e.path → e.path = p := by
  simp [hasChildren]

/-! ### `rekey`, and the tree a `rename(2)` leaves -/

/-- where `rekey a b` sends a path -/
def repath (a b p : APath) : APath := if a <+: p then b ++ p.drop a.length else p

theorem rekey_eq (a b : APath) (e : Entry) : rekey a b e = { e with path := repath a b e.path } := by
  unfold rekey repath; split <;> simp_all

theorem rekey_path (a b : APath) (e : Entry) : (rekey a b e).path = repath a b e.path := by rw [rekey_eq]
theorem rekey_kind (a b : APath) (e : Entry) : (rekey a b e).kind = e.kind := by rw [rekey_eq]
theorem rekey_id (a b : APath) (e : Entry) : (rekey a b e).id = e.id := by rw [rekey_eq]
theorem rekey_content (a b : APath) (e : Entry) : (rekey a b e).content = e.content := by rw [rekey_eq]

theorem repath_of_prefix {a b p : APath} (h : a <+: p) : repath a b p = b ++ p.drop a.length := if_pos h
theorem repath_of_not_prefix {a b p : APath} (h : ¬ a <+: p) : repath a b p = p := if_neg h
theorem repath_self (a b : APath) : repath a b a = b := by simp [repath]

theorem repath_eq_right {a b p : APath} (h : repath a b p = b) : p = a ∨ p = b := by
  by_cases hp : a <+: p
  · rw [repath_of_prefix hp] at h
    rw [← List.prefix_iff_eq_append.mp hp, List.append_right_eq_self.mp h, List.append_nil]; exact Or.inl rfl
  · exact Or.inr (repath_of_not_prefix hp ▸ h)

theorem rekey_path_of_prefix {a b : APath} {e : Entry} (h : a <+: e.path) :
    (rekey a b e).path = b ++ e.path.drop a.length := by rw [rekey_path, repath_of_prefix h]

theorem rekey_of_not_prefix {a b : APath} {e : Entry} (h : ¬ a <+: e.path) : rekey a b e = e := by
  rw [rekey_eq, repath_of_not_prefix h]

theorem prefix_dropLast_of_prefix_ne {a p : APath} (h : a <+: p) (hne : a ≠ p) : a <+: p.dropLast := by
  obtain ⟨t, rfl⟩ := h
  have ht : t ≠ [] := by intro e; subst e; simp at hne
  exact ⟨t.dropLast, by rw [List.dropLast_append_of_ne_nil ht]⟩

theorem length_dropLast_snoc (q : APath) (n : Name) (hq : q ≠ []) : (q.dropLast ++ [n]).length = q.length := by
  have : 0 < q.length := List.length_pos_iff.mpr hq
  simp; omega

theorem dropLast_ne_self {p : APath} (h : p ≠ []) : p.dropLast ≠ p := fun e => by
  have := congrArg List.length e
  have := List.length_pos_iff.mpr h
  simp at *; omega

theorem repath_dropLast {a b p : APath} (hp : p ≠ a) : (repath a b p).dropLast = repath a b p.dropLast := by
  by_cases h : a <+: p
  · rw [repath_of_prefix h, repath_of_prefix (prefix_dropLast_of_prefix_ne h (Ne.symm hp))]
    obtain ⟨t, rfl⟩ := h
    have ht : t ≠ [] := by intro e; subst e; simp at hp
    simp [List.dropLast_append_of_ne_nil ht]
  · rw [repath_of_not_prefix h, repath_of_not_prefix fun h' => h (h'.trans (List.dropLast_prefix p))]

theorem repath_inj {a b x y : APath} (hx : ¬ b <+: x) (hy : ¬ b <+: y) (h : repath a b x = repath a b y) : x = y := by
  unfold repath at h
  split at h <;> split at h <;> rename_i h1 h2
  · rw [← List.prefix_iff_eq_append.mp h1, ← List.prefix_iff_eq_append.mp h2, List.append_cancel_left h]
  · exact absurd (h ▸ List.prefix_append _ _) hy
  · exact absurd (h ▸ List.prefix_append _ _) hx
  · exact h

/-- what a successful `renameAbs fs a b` with `a ≠ b` returns, whether or not `b` existed -/
def moved (fs : FS) (a b : APath) : FS := (fs.filter (fun e => e.path ≠ b)).map (rekey a b)

theorem mem_moved {fs : FS} {a b : APath} {e' : Entry} :
    e' ∈ moved fs a b ↔ ∃ e ∈ fs, e.path ≠ b ∧ rekey a b e = e' := by
  simp [moved, and_assoc]

theorem moved_of_find_none {fs : FS} {a b : APath} (h : fs.find b = none) : moved fs a b = fs.map (rekey a b) := by
  rw [moved, filter_ne_of_find_none h]

theorem find_map_rekey {fs : FS} {a b p : APath} (ha : ¬ a <+: p) (hb : ¬ b <+: p) :
    FS.find (fs.map (rekey a b)) p = fs.find p := by
  unfold FS.find
  induction fs with
  | nil => rfl
  | cons x t ih =>
    rw [List.map_cons, List.find?_cons, List.find?_cons, ih]
    by_cases hx : a <+: x.path
    · have h1 : (rekey a b x).path ≠ p := by
        rw [rekey_path_of_prefix hx]; exact fun h => hb (h ▸ List.prefix_append _ _)
      have h2 : x.path ≠ p := fun h => ha (h ▸ hx)
      simp [h1, h2]
    · rw [rekey_of_not_prefix hx]

theorem leaves_map_rekey (fs : FS) (a b : APath) : leaves (fs.map (rekey a b)) = leaves fs := by
  simp [leaves, List.filter_map, Function.comp_def, rekey_kind, rekey_id, rekey_content]

/-- tree shape: every entry hangs below the root or below an existing directory -/
def Closed (fs : FS) : Prop :=
  ∀ e ∈ fs, e.path ≠ [] ∧ (e.path.dropLast = [] ∨ ∃ d ∈ fs, d.path = e.path.dropLast ∧ d.kind = .dir)

/-- a tree: one entry per path, and every entry below an existing directory -/
def WF (fs : FS) : Prop := pathsNodup fs ∧ Closed fs

theorem find_nil_none {fs : FS} (hc : Closed fs) : fs.find [] = none :=
  find_none_iff.mpr fun e he => (hc e he).1

theorem ancestor_is_dir {fs : FS} (hc : Closed fs) {e : Entry} (he : e ∈ fs) {q : APath}
    (hq : q <+: e.path) (hne : q ≠ e.path) (hq0 : q ≠ []) : ∃ d ∈ fs, d.path = q ∧ d.kind = .dir := by
  induction hn : e.path.length generalizing e with
  | zero => rw [List.length_eq_zero_iff.mp hn] at hq; exact absurd (List.prefix_nil.mp hq) hq0
  | succ n ih =>
    have hqd := prefix_dropLast_of_prefix_ne hq hne
    rcases (hc e he).2 with h0 | ⟨d, hd, hdp, hdk⟩
    · rw [h0] at hqd; exact absurd (List.prefix_nil.mp hqd) hq0
    · by_cases heq : q = e.path.dropLast
      · exact ⟨d, hd, hdp.trans heq.symm, hdk⟩
      · exact ih hd (hdp ▸ hqd) (hdp ▸ heq) (by rw [hdp, List.length_dropLast, hn]; rfl)

theorem isDirAt_of_below {fs : FS} (hw : WF fs) {e : Entry} (he : e ∈ fs) {q : APath}
    (hq : q <+: e.path) (hne : q ≠ e.path) : isDirAt fs q = true := by
  by_cases hq0 : q = []
  · exact isDirAt_iff_find.mpr (Or.inl hq0)
  · exact (isDirAt_iff hw.1 q).mpr (Or.inr (ancestor_is_dir hw.2 he hq hne hq0))

theorem hasChildren_of_not_dir {fs : FS} (hw : WF fs) {p : APath} (h : isDirAt fs p = false) : hasChildren fs p = false :=
  hasChildren_eq_false.mpr fun e he hp => Decidable.byContradiction fun hne => by
    rw [isDirAt_of_below hw he hp (Ne.symm hne)] at h; cases h

theorem leaf_no_children {fs : FS} (hw : WF fs) {a : APath} {ea : Entry} (ha : fs.find a = some ea)
    (hka : ea.kind ≠ .dir) {e : Entry} (he : e ∈ fs) (hp : a <+: e.path) : e = ea := by
  have hna : isDirAt fs a = false :=
    not_isDirAt (fun h0 => by rw [h0, find_nil_none hw.2] at ha; cases ha) fun d hd => by rw [ha] at hd; cases hd; exact hka
  have := (find_eq_some_iff hw.1).mpr ⟨he, hasChildren_eq_false.mp (hasChildren_of_not_dir hw hna) e he hp⟩
  rw [ha] at this; exact (Option.some.inj this).symm

theorem WF_moved {fs : FS} (hw : WF fs) {a b : APath} (hb0 : b ≠ []) (hpar : isDirAt fs b.dropLast = true)
    (hab : ¬ a <+: b) (hfree : hasChildren fs b = false) : WF (moved fs a b) := by
  obtain ⟨hn, hc⟩ := hw
  rw [hasChildren_eq_false] at hfree
  constructor
  · unfold pathsNodup moved at *
    rw [List.map_map, List.nodup_iff_pairwise_ne, List.pairwise_map]
    refine ((List.pairwise_map.mp hn).filter _).imp_of_mem fun {x y} hx hy hne => ?_
    simp only [List.mem_filter, decide_eq_true_eq] at hx hy
    simp only [Function.comp, rekey_path]
    exact fun h => hne (repath_inj (fun h' => hx.2 (hfree x hx.1 h')) (fun h' => hy.2 (hfree y hy.1 h')) h)
  · intro e' he'
    obtain ⟨e, he, hne, rfl⟩ := mem_moved.mp he'
    obtain ⟨he0, hepar⟩ := hc e he
    have ha0 : a ≠ [] := fun h => hab (h ▸ List.nil_prefix)
    have dir : ∀ q, (q = [] ∨ ∃ d ∈ fs, d.path = q ∧ d.kind = .dir) → q ≠ b →
        repath a b q = [] ∨ ∃ d' ∈ moved fs a b, d'.path = repath a b q ∧ d'.kind = .dir := by
      rintro q (h0 | ⟨d, hd, hdp, hdk⟩) hqb
      · left; rw [h0, repath_of_not_prefix fun h => ha0 (List.prefix_nil.mp h)]
      · exact Or.inr ⟨rekey a b d, mem_moved.mpr ⟨d, hd, hdp ▸ hqb, rfl⟩, by rw [rekey_path, hdp], by rw [rekey_kind, hdk]⟩
    rw [rekey_path]
    constructor
    · unfold repath; split <;> simp [hb0, he0]
    · by_cases hea : e.path = a
      · -- the renamed entry itself now hangs below `b`'s parent, which has not moved
        have hnp : ¬ a <+: b.dropLast := fun h => hab (h.trans (List.dropLast_prefix b))
        have := dir b.dropLast ((isDirAt_iff hn _).mp hpar) (dropLast_ne_self hb0)
        rwa [hea, repath_self, ← repath_of_not_prefix (b := b) hnp]
      · -- everything else hangs below what its parent has become; the parent was not at `b`, where nothing had children
        rw [repath_dropLast hea]
        exact dir _ hepar fun h => hne (hfree e he (h ▸ List.dropLast_prefix _))

/-! ### `mkdirAbs`, `renameAbs`, `RealState.prim`: when they succeed, and with what -/

theorem mkdirAbs_ok_iff {fs fs' : FS} {p : APath} {i : Nat} :
    mkdirAbs fs p i = .ok fs' ↔
      lexists fs p = false ∧ isDirAt fs p.dropLast = true ∧ fs' = fs ++ [{ path := p, id := i, kind := .dir, content := 0 }] := by
  unfold mkdirAbs
  cases h1 : lexists fs p
  · cases h3 : isDirAt fs p.dropLast
    · cases lexists fs p.dropLast <;> simp
    · simp [isDirAt_lexists h3, eq_comm]
  · simp

/-- what `rename(2)` demands of a destination that exists: a directory only onto an empty directory, anything
    else only onto a non-directory -/
def Replaceable (fs : FS) (ea : Entry) (b : APath) : Prop :=
  ∀ eb, fs.find b = some eb → (ea.kind = .dir ↔ eb.kind = .dir) ∧ (ea.kind = .dir → hasChildren fs b = false)

theorem renameAbs_ok_iff {fs fs' : FS} {a b : APath} :
    renameAbs fs a b = .ok fs' ↔
      ∃ ea, fs.find a = some ea ∧ b ≠ [] ∧ isDirAt fs b.dropLast = true ∧
        (a = b ∧ fs' = fs ∨ ¬ a <+: b ∧ Replaceable fs ea b ∧ fs' = moved fs a b) := by
  unfold renameAbs
  cases hfa : fs.find a with
  | none => simp
  | some ea =>
    by_cases hb0 : b = []
    · simp [hb0]
    cases hpar : isDirAt fs b.dropLast
    · simp [hb0]
    by_cases hab : a = b
    · simp [hb0, hab, eq_comm (a := fs')]
    by_cases hpre : a <+: b
    · simp [hb0, hab, hpre]
    simp only [hb0, hab, hpre, List.isPrefixOf_iff_prefix, if_false, Bool.not_true, Bool.false_eq_true,
      Option.some.injEq, exists_eq_left', ne_eq, not_false_eq_true, true_and, false_and, false_or, Replaceable]
    cases hfb : fs.find b with
    | none => simp [moved_of_find_none hfb, eq_comm (a := fs')]
    | some eb =>
      simp only [Option.some.injEq, forall_eq']
      by_cases hka : ea.kind = .dir <;> by_cases hkb : eb.kind = .dir <;> simp [hka, hkb, moved, eq_comm (a := fs')]
      cases hasChildren fs b <;> simp

theorem renameAbs_of_find_none {fs : FS} {a b : APath} (h : fs.find a = none) : renameAbs fs a b = .error .ENOENT := by
  unfold renameAbs; rw [h]

theorem renameAbs_nondir_ok {fs : FS} {a b : APath} {ea : Entry} (ha : fs.find a = some ea) (hka : ea.kind ≠ .dir)
    (hnp : ¬ a <+: b) (hpar : isDirAt fs b.dropLast = true) (hbd : isDirAt fs b = false) :
    renameAbs fs a b = .ok (moved fs a b) :=
  renameAbs_ok_iff.mpr ⟨ea, ha, ne_nil_of_not_isDirAt hbd, hpar, Or.inr ⟨hnp,
    fun _ hb => ⟨iff_of_false hka (kind_of_not_isDirAt hbd hb), fun h => absurd h hka⟩, rfl⟩⟩

/-- one primitive on the tree alone -/
def Prim.apply (fs : FS) : Prim → Except Errno FS
  | .mkdir q => mkdirAbs fs q (nextId fs)
  | .rename a b => renameAbs fs a b

theorem prim_eq (s : RealState) (p : Prim) :
    s.prim p = if s.faultAt = some s.opIndex then .error .EFAULT else
      match p.apply s.fs with
      | .ok fs' => .ok { s with fs := fs', log := s.log ++ [p], hist := s.hist ++ [fs'] }
      | .error e => .error e := by cases p <;> rfl

theorem prim_ok_iff {s s' : RealState} {p : Prim} :
    s.prim p = .ok s' ↔ s.faultAt ≠ some s.opIndex ∧
      ∃ fs', p.apply s.fs = .ok fs' ∧ s' = { s with fs := fs', log := s.log ++ [p], hist := s.hist ++ [fs'] } := by
  rw [prim_eq]
  by_cases hf : s.faultAt = some s.opIndex
  · simp [hf]
  · cases p.apply s.fs <;> simp [hf, eq_comm (a := s')]

/-! ### what the primitives keep -/

theorem renameAbs_WF {fs fs' : FS} {a b : APath} (hw : WF fs) (h : renameAbs fs a b = .ok fs') : WF fs' := by
  obtain ⟨ea, _, hb0, hpar, ⟨_, rfl⟩ | ⟨hab, hrep, rfl⟩⟩ := renameAbs_ok_iff.mp h
  · exact hw
  · refine WF_moved hw hb0 hpar hab ?_
    -- nothing lived below `b`: it was an empty directory, or no directory at all
    by_cases hk : ea.kind = .dir
    · cases hfb : fs.find b with
      | none => exact hasChildren_of_not_dir hw (not_isDirAt hb0 fun e he => by rw [hfb] at he; cases he)
      | some eb => exact (hrep eb hfb).2 hk
    · exact hasChildren_of_not_dir hw (not_isDirAt hb0 fun eb he => fun hkb => hk ((hrep eb he).1.mpr hkb))

theorem renameAbs_leaves {fs fs' : FS} {a b : APath} (h : renameAbs fs a b = .ok fs')
    (hb : fs.find b = none ∨ a = b) : leaves fs' = leaves fs := by
  obtain ⟨_, _, _, _, ⟨_, rfl⟩ | ⟨hab, _, rfl⟩⟩ := renameAbs_ok_iff.mp h
  · rfl
  · rcases hb with hb | rfl
    · rw [moved_of_find_none hb, leaves_map_rekey]
    · exact absurd List.prefix_rfl hab

theorem renameAbs_fresh {fs fs' : FS} {a b : APath} (h : renameAbs fs a b = .ok fs') (hb : fs.find b = none)
    (hab : a ≠ b) : fs' = fs.map (rekey a b) := by
  obtain ⟨_, _, _, _, ⟨h, _⟩ | ⟨_, _, rfl⟩⟩ := renameAbs_ok_iff.mp h
  · exact absurd h hab
  · exact moved_of_find_none hb

theorem renameAbs_dst {fs fs' : FS} {a b : APath} {ea : Entry} (hn : pathsNodup fs) (ha : fs.find a = some ea)
    (hab : a ≠ b) (h : renameAbs fs a b = .ok fs') :
    { ea with path := b } ∈ fs' ∧ ∀ e ∈ fs', e.path = b → e = { ea with path := b } := by
  obtain ⟨_, _, _, _, ⟨h, _⟩ | ⟨_, _, rfl⟩⟩ := renameAbs_ok_iff.mp h
  · exact absurd h hab
  have hamem := find_some_mem ha
  have hea : rekey a b ea = { ea with path := b } := by rw [rekey_eq, hamem.2, repath_self]
  refine ⟨mem_moved.mpr ⟨ea, hamem.1, hamem.2 ▸ hab, hea⟩, fun e' he' hp => ?_⟩
  obtain ⟨e, he, hne, rfl⟩ := mem_moved.mp he'
  rw [rekey_path] at hp
  -- what arrives at `b` came from `a`, and the paths of `fs` are pairwise different
  have := (find_eq_some_iff hn).mpr ⟨he, (repath_eq_right hp).resolve_right hne⟩
  rw [ha] at this
  rw [← Option.some.inj this, hea]

theorem mkdirAbs_leaves {fs fs' : FS} {p : APath} {i : Nat} (h : mkdirAbs fs p i = .ok fs') : leaves fs' = leaves fs := by
  obtain ⟨_, _, rfl⟩ := mkdirAbs_ok_iff.mp h
  simp [leaves, List.filter_append]

theorem mkdirAbs_WF {fs fs' : FS} {p : APath} {i : Nat} (hw : WF fs) (h : mkdirAbs fs p i = .ok fs') : WF fs' := by
  obtain ⟨hex, hpar, rfl⟩ := mkdirAbs_ok_iff.mp h
  have hnew : ¬ (p = [] ∨ ∃ d ∈ fs, d.path = p) := fun h => by rw [(lexists_iff p).mpr h] at hex; cases hex
  constructor
  · unfold pathsNodup
    rw [List.map_append, List.nodup_append]
    exact ⟨hw.1, by simp, fun a ha b hb e => by
      obtain ⟨d, hd, rfl⟩ := List.mem_map.mp ha
      exact hnew (.inr ⟨d, hd, e.trans (List.mem_singleton.mp hb)⟩)⟩
  · have old : ∀ q, (q = [] ∨ ∃ d ∈ fs, d.path = q ∧ d.kind = .dir) →
        q = [] ∨ ∃ d ∈ fs ++ [{ path := p, id := i, kind := .dir, content := 0 }], d.path = q ∧ d.kind = .dir :=
      fun q => Or.imp_right fun ⟨d, hd, h⟩ => ⟨d, List.mem_append_left _ hd, h⟩
    intro e he
    rcases List.mem_append.mp he with he | he
    · exact ⟨(hw.2 e he).1, old _ (hw.2 e he).2⟩
    · rw [List.mem_singleton.mp he]
      exact ⟨fun h => hnew (Or.inl h), old _ ((isDirAt_iff hw.1 _).mp hpar)⟩

/-! ### the invariant of C01 along a run, and the primitives that keep it -/

/-- every state reached so far holds exactly the leaves `L`, and the file system is a tree -/
def Safe (L : List (Nat × Kind × Nat)) (s : RealState) : Prop :=
  WF s.fs ∧ leaves s.fs = L ∧ ∀ f ∈ s.hist, leaves f = L

/-- a primitive that cannot replace anything: any `mkdir`, a `rename` onto a path where nothing is (or onto itself) -/
def GuardedPrim (fs : FS) : Prim → Prop
  | .mkdir _ => True
  | .rename a b => fs.find b = none ∨ a = b

theorem prim_safe {L} {s s' : RealState} {p : Prim} (hs : Safe L s) (h : s.prim p = .ok s')
    (hg : GuardedPrim s.fs p) : Safe L s' := by
  obtain ⟨hw, hl, hh⟩ := hs
  obtain ⟨_, fs', hap, rfl⟩ := prim_ok_iff.mp h
  have ⟨hw', hl'⟩ : WF fs' ∧ leaves fs' = leaves s.fs := by
    cases p with
    | mkdir q => exact ⟨mkdirAbs_WF hw hap, mkdirAbs_leaves hap⟩
    | rename a b => exact ⟨renameAbs_WF hw hap, renameAbs_leaves hap hg⟩
  exact ⟨hw', hl'.trans hl, List.forall_mem_append.mpr ⟨hh, List.forall_mem_singleton.mpr (hl'.trans hl)⟩⟩

theorem prim_mkdir_entries {s s' : RealState} {q : APath} (h : s.prim (.mkdir q) = .ok s') :
    ∀ e ∈ s'.fs, e ∈ s.fs ∨ e.kind = .dir := by
  obtain ⟨_, fs', hap, rfl⟩ := prim_ok_iff.mp h
  obtain ⟨_, _, rfl⟩ := mkdirAbs_ok_iff.mp hap
  exact List.forall_mem_append.mpr ⟨fun _ => .inl, List.forall_mem_singleton.mpr (.inr rfl)⟩

/-! ### `walk`: the kernel's path resolution, step by step -/

/-- one step of the kernel's path walk (`lexists` is implied by `isDirAt`) -/
theorem walk_cons_ok {fs : FS} {cur b : APath} {c : Name} {rest : List Name} :
    walk fs cur (c :: rest) = .ok b ↔ isLinkAt fs cur = false ∧ isDirAt fs cur = true ∧
      if c = dotdot then cur ≠ [] ∧ walk fs cur.dropLast rest = .ok b else walk fs (cur ++ [c]) rest = .ok b := by
  rw [walk]
  cases isLinkAt fs cur
  · cases hd : isDirAt fs cur
    · cases lexists fs cur <;> simp
    · simp only [isDirAt_lexists hd, Bool.not_true, Bool.false_eq_true, if_false, true_and]
      by_cases hc : c = dotdot <;> by_cases h0 : cur = [] <;> simp [hc, h0]
  · simp

theorem walk_result_normalized {fs : FS} : ∀ (parts : List Name) (cur b : APath),
    (∀ c ∈ parts, c ≠ dotdot) → walk fs cur parts = .ok b → b = cur ++ parts := by
  intro parts
  induction parts with
  | nil => intro cur b _ h; simpa [walk, eq_comm] using h
  | cons c rest ih =>
    intro cur b hdd h
    have := (walk_cons_ok.mp h).2.2
    rw [if_neg (hdd c List.mem_cons_self)] at this
    rw [ih _ b (fun x hx => hdd x (List.mem_cons_of_mem _ hx)) this, List.append_assoc, List.singleton_append]

theorem walk_dirs {fs : FS} : ∀ (parts : List Name) (cur : APath), (∀ c ∈ parts, c ≠ dotdot) →
    (∀ k, k < parts.length → isDirAt fs (cur ++ parts.take k) = true ∧ isLinkAt fs (cur ++ parts.take k) = false) →
    walk fs cur parts = .ok (cur ++ parts) := by
  intro parts
  induction parts with
  | nil => intro cur _ _; simp [walk]
  | cons c rest ih =>
    intro cur hdd hdirs
    have h0 := hdirs 0 (by simp)
    rw [List.take_zero, List.append_nil] at h0
    refine walk_cons_ok.mpr ⟨h0.2, h0.1, ?_⟩
    rw [if_neg (hdd c List.mem_cons_self), ih (cur ++ [c]) (fun x hx => hdd x (List.mem_cons_of_mem _ hx))]
    · rw [List.append_assoc, List.singleton_append]
    · intro k hk
      simpa using hdirs (k + 1) (by simpa using hk)

theorem isLinkAt_of_isDirAt {fs : FS} (hc : Closed fs) {p : APath} (h : isDirAt fs p = true) : isLinkAt fs p = false := by
  unfold isLinkAt
  rcases isDirAt_iff_find.mp h with h0 | ⟨e, he, hk⟩
  · rw [h0, find_nil_none hc]
  · rw [he]; simp [hk]

/-- a normalised relative path to an existing entry can be walked -/
theorem walk_ok_of_entry {fs : FS} (hw : WF fs) {e : Entry} (he : e ∈ fs) :
    ∀ (parts : List Name) (cur : APath), parts ≠ [] → (∀ c ∈ parts, c ≠ dotdot) → e.path = cur ++ parts →
      walk fs cur parts = .ok (cur ++ parts) := by
  intro parts cur _ hdd hp
  refine walk_dirs parts cur hdd fun k hk => ?_
  have hd : isDirAt fs (cur ++ parts.take k) = true := by
    refine isDirAt_of_below hw he ?_ fun h => ?_
    · rw [hp]; exact (List.prefix_append_right_inj cur).mpr (List.take_prefix k parts)
    · have := congrArg List.length h
      rw [hp, List.length_append, List.length_append, List.length_take] at this
      omega
  exact ⟨hd, isLinkAt_of_isDirAt hw.2 hd⟩

/-! ### the renamers, call by call: what a call is, and that it keeps the invariant -/

theorem lexistsRel_of_walk {fs : FS} {cwd q : APath} {p : PurePath} (h : walkPath fs cwd p = .ok q) :
    lexistsRel fs cwd p = lexists fs q := by unfold lexistsRel; rw [h]

theorem isDirRel_of_walk {fs : FS} {cwd q : APath} {p : PurePath} (h : walkPath fs cwd p = .ok q) :
    isDirRel fs cwd p = isDirAt fs q := by unfold isDirRel; rw [h]

theorem renameRel_cases (s : RealState) (cwd : APath) (src dst : PurePath) :
    (∃ e, renameRel s cwd src dst = (s, some e)) ∨
    ∃ a b s', walkPath s.fs cwd src = .ok a ∧ walkPath s.fs cwd dst = .ok b ∧ s.prim (.rename a b) = .ok s' ∧
      renameRel s cwd src dst = (s', none) := by
  fun_cases renameRel s cwd src dst
  · exact .inr ⟨_, _, _, ‹_›, ‹_›, ‹_›, rfl⟩
  · exact .inl ⟨_, rfl⟩
  · exact .inl ⟨_, rfl⟩
  · exact .inl ⟨_, rfl⟩

theorem fileRenamer_cases (s : RealState) (cwd : APath) (src dst : PurePath) (ov : Bool) :
    (∃ e, fileRenamer s cwd src dst ov = (s, some e)) ∨
    ∃ a b s', (!ov && lexistsRel s.fs cwd dst) = false ∧ parentOf src = parentOf dst ∧
      walkPath s.fs cwd src = .ok a ∧ walkPath s.fs cwd dst = .ok b ∧ s.prim (.rename a b) = .ok s' ∧
      fileRenamer s cwd src dst ov = (s', none) := by
  fun_cases fileRenamer s cwd src dst ov
  · exact .inl ⟨_, rfl⟩
  · exact .inl ⟨_, rfl⟩
  · exact (renameRel_cases s cwd src dst).imp_right fun ⟨a, b, s', ha, hb, hp, h⟩ =>
      ⟨a, b, s', (Bool.not_eq_true _).mp ‹_›, Decidable.not_not.mp ‹_›, ha, hb, hp, h⟩

theorem dryRunRenamerWith_cases (sameDir : Bool) (s : DryState) (cwd : APath) (src dst : PurePath) (ov : Bool) :
    (∃ e, dryRunRenamerWith sameDir s cwd src dst ov = (s, some e)) ∨
    dryRunRenamerWith sameDir s cwd src dst ov =
      ({ s with removed := (s.removed ++ [absKey cwd src]).filter (· ≠ absKey cwd dst),
                created := (s.created ++ [absKey cwd dst]).filter (· ≠ absKey cwd src) }, none) := by
  fun_cases dryRunRenamerWith sameDir s cwd src dst ov
  · exact .inl ⟨_, rfl⟩
  · exact .inl ⟨_, rfl⟩
  · exact .inl ⟨_, rfl⟩
  · exact .inr rfl

theorem find_none_of_not_lexistsRel {fs : FS} {cwd b : APath} {p : PurePath}
    (hg : lexistsRel fs cwd p = false) (hw : walkPath fs cwd p = .ok b) : fs.find b = none := by
  rw [lexistsRel_of_walk hw, Bool.eq_false_iff, Ne, lexists_iff_find, not_or, not_exists] at hg
  exact Option.eq_none_iff_forall_ne_some.mpr hg.2

theorem renameRel_safe {L} {s : RealState} (hs : Safe L s) (cwd : APath) (src dst : PurePath)
    (hg : ∀ b, walkPath s.fs cwd dst = .ok b → s.fs.find b = none) : Safe L (renameRel s cwd src dst).1 := by
  rcases renameRel_cases s cwd src dst with ⟨e, h⟩ | ⟨a, b, s', _, hb, hp, h⟩
  · rw [h]; exact hs
  · rw [h]; exact prim_safe hs hp (Or.inl (hg b hb))

/-- `FileRenamer` without override never loses or overwrites anything, whatever it is asked to do -/
theorem fileRenamer_safe {L} {s : RealState} (hs : Safe L s) (cwd : APath) (src dst : PurePath) :
    Safe L (fileRenamer s cwd src dst false).1 := by
  rcases fileRenamer_cases s cwd src dst false with ⟨e, h⟩ | ⟨a, b, s', hg, _, _, hb, hp, h⟩
  · rw [h]; exact hs
  · rw [h]; exact prim_safe hs hp (Or.inl (find_none_of_not_lexistsRel (by simpa using hg) hb))

theorem mkdirAll_safe {L} {s0 : RealState} (todo : List APath) (acc : RealState × Option RenErr)
    (h : Safe L acc.1 ∧ ∀ e ∈ acc.1.fs, e ∈ s0.fs ∨ e.kind = .dir) :
    Safe L (todo.foldl mkdirStep acc).1 ∧ ∀ e ∈ (todo.foldl mkdirStep acc).1.fs, e ∈ s0.fs ∨ e.kind = .dir := by
  refine List.foldlRecOn (motive := fun acc : RealState × Option RenErr => Safe L acc.1 ∧ ∀ e ∈ acc.1.fs, e ∈ s0.fs ∨ e.kind = .dir) todo _ h
    fun acc h q _ => ?_
  unfold mkdirStep
  cases acc.2 with
  | some e => exact h
  | none =>
    cases hp : acc.1.prim (.mkdir q) with
    | error e => exact h
    | ok s' => exact ⟨prim_safe h.1 hp trivial, fun e he => (prim_mkdir_entries hp e he).elim (h.2 e) Or.inr⟩

theorem mkdirP_cases (s : RealState) (cwd : APath) (p : PurePath) :
    (∃ e, mkdirP s cwd p = (s, some e)) ∨ ∃ todo, mkdirP s cwd p = mkdirAll s todo := by
  fun_cases mkdirP s cwd p
  · exact .inl ⟨_, rfl⟩
  · exact .inl ⟨_, rfl⟩
  · exact .inl ⟨_, rfl⟩
  · exact .inr ⟨_, rfl⟩

theorem mkdirP_safe {L} {s : RealState} (hs : Safe L s) (cwd : APath) (p : PurePath) :
    Safe L (mkdirP s cwd p).1 ∧ ∀ e ∈ (mkdirP s cwd p).1.fs, e ∈ s.fs ∨ e.kind = .dir := by
  rcases mkdirP_cases s cwd p with ⟨e, h⟩ | ⟨todo, h⟩ <;> rw [h]
  · exact ⟨hs, fun e he => Or.inl he⟩
  · exact mkdirAll_safe todo (s, none) ⟨hs, fun e he => Or.inl he⟩

theorem isDirRel_lexistsRel {fs : FS} {cwd : APath} {p : PurePath} (h : isDirRel fs cwd p = true) :
    lexistsRel fs cwd p = true := by
  cases hw : walkPath fs cwd p with
  | error e => simp [isDirRel, hw] at h
  | ok q => rw [lexistsRel_of_walk hw]; rw [isDirRel_of_walk hw] at h; exact isDirAt_lexists h

/-- `FileMover` without override never loses or overwrites anything either -/
theorem fileMover_safe {L} {s : RealState} (hs : Safe L s) (cwd : APath) (src dst : PurePath) :
    Safe L (fileMover s cwd src dst false).1 := by
  -- after `mkdir -p` of the parent the state is `s'`, still safe
  have hs' : ∀ {s' e}, mkdirP s cwd (parentOf dst) = (s', e) → Safe L s' := fun h => by
    have := (mkdirP_safe hs cwd (parentOf dst)).1
    rwa [h] at this
  fun_cases fileMover s cwd src dst false
  · exact hs
  · exact hs
  · exact hs' ‹_›
  · exact hs' ‹_›
  · rename_i s' hm h2
    have hg : lexistsRel s'.fs cwd dst = false := by simpa using h2
    unfold shutilMove
    -- not *into* an existing directory: the destination was just seen not to exist
    rw [if_neg fun hdir => by rw [isDirRel_lexistsRel hdir] at hg; cases hg]
    exact renameRel_safe (hs' hm) cwd src dst fun b hb => find_none_of_not_lexistsRel hg hb

end Tempren

import TemprenModel.Model.Text
namespace Tempren
variable {α : Type}

/-! strip family: `lstripBy` is `dropWhile`, `rstripBy` its mirror image -/

theorem lstripBy_eq_dropWhile (p : α → Bool) (s : List α) : lstripBy p s = s.dropWhile p := by
  induction s with
  | nil => rfl
  | cons c t ih => rw [lstripBy, List.dropWhile_cons, ih]

theorem rstripBy_cons (p : α → Bool) (c : α) (t : List α) :
    rstripBy p (c :: t) = if rstripBy p t = [] then (if p c then [] else [c]) else c :: rstripBy p t := by
  rw [rstripBy]
  cases h : rstripBy p t <;> simp

theorem rstripBy_eq_reverse (p : α → Bool) (s : List α) : rstripBy p s = (lstripBy p s.reverse).reverse := by
  induction s with
  | nil => rfl
  | cons c t ih =>
    rw [rstripBy_cons, ih, lstripBy_eq_dropWhile, lstripBy_eq_dropWhile, List.reverse_cons, List.dropWhile_append]
    cases h : List.dropWhile p t.reverse with
    | nil => by_cases hc : p c = true <;> simp [hc]
    | cons d u => simp

theorem lstripBy_suffix (p : α → Bool) (s : List α) : lstripBy p s <:+ s := by
  rw [lstripBy_eq_dropWhile]; exact List.dropWhile_suffix p

theorem lstripBy_head (p : α → Bool) (s : List α) : ∀ c, (lstripBy p s).head? = some c → p c = false := by
  intro c h
  have := List.head?_dropWhile_not p s
  rwa [← lstripBy_eq_dropWhile, h] at this

theorem lstripBy_removed (p : α → Bool) (s : List α) :
    ∃ pre, s = pre ++ lstripBy p s ∧ ∀ c ∈ pre, p c = true :=
  ⟨s.takeWhile p, by rw [lstripBy_eq_dropWhile, List.takeWhile_append_dropWhile],
    List.all_eq_true.mp List.all_takeWhile⟩

theorem lstripBy_of_head (p : α → Bool) (s : List α) (h : ∀ c, s.head? = some c → p c = false) :
    lstripBy p s = s := by
  cases s with
  | nil => rfl
  | cons c t => simp [lstripBy, h c rfl]

theorem lstripBy_idem (p : α → Bool) (s : List α) : lstripBy p (lstripBy p s) = lstripBy p s :=
  lstripBy_of_head p _ (lstripBy_head p s)

theorem rstripBy_prefix (p : α → Bool) (s : List α) : rstripBy p s <+: s := by
  have := lstripBy_suffix p s.reverse
  rwa [← List.reverse_prefix, List.reverse_reverse, ← rstripBy_eq_reverse] at this

theorem rstripBy_removed (p : α → Bool) (s : List α) :
    ∃ suf, s = rstripBy p s ++ suf ∧ ∀ c ∈ suf, p c = true := by
  obtain ⟨pre, h1, h2⟩ := lstripBy_removed p s.reverse
  refine ⟨pre.reverse, ?_, fun c hc => h2 c (List.mem_reverse.mp hc)⟩
  rw [rstripBy_eq_reverse, ← List.reverse_append, ← h1, List.reverse_reverse]

theorem rstripBy_last (p : α → Bool) (s : List α) : ∀ c, (rstripBy p s).getLast? = some c → p c = false := by
  rw [rstripBy_eq_reverse, List.getLast?_reverse]; exact lstripBy_head p _

theorem rstripBy_of_last (p : α → Bool) (s : List α) (h : ∀ c, s.getLast? = some c → p c = false) :
    rstripBy p s = s := by
  rw [rstripBy_eq_reverse, lstripBy_of_head p _ (by rwa [List.head?_reverse]), List.reverse_reverse]

theorem rstripBy_idem (p : α → Bool) (s : List α) : rstripBy p (rstripBy p s) = rstripBy p s :=
  rstripBy_of_last p _ (rstripBy_last p s)

theorem stripBy_head (p : α → Bool) (s : List α) : ∀ c, (stripBy p s).head? = some c → p c = false := by
  intro c hc
  obtain ⟨suf, h⟩ := rstripBy_prefix p (lstripBy p s)
  refine lstripBy_head p s c ?_
  rw [← h, List.head?_append, ← stripBy, hc]
  rfl

/-! collapse -/

def noAdjacent (p : α → Bool) : List α → Bool
  | a :: b :: t => !(p a && p b) && noAdjacent p (b :: t)
  | _ => true

theorem noAdjacent_cons (p : α → Bool) (c : α) (l : List α) :
    noAdjacent p (c :: l) = true ↔ (∀ d, l.head? = some d → p c = false ∨ p d = false) ∧ noAdjacent p l = true := by
  cases l <;> simp [noAdjacent]

theorem collapseAux_spec [BEq α] (cs : List α) (prev : Bool) (s : List α) :
    noAdjacent (fun c => cs.contains c) (collapseAux cs prev s) = true ∧
    (prev = true → ∀ c, (collapseAux cs prev s).head? = some c → cs.contains c = false) := by
  induction s generalizing prev with
  | nil => simp [collapseAux, noAdjacent]
  | cons c t ih =>
    simp only [collapseAux]
    split
    · -- a listed character after a listed one is dropped
      exact ⟨(ih true).1, fun _ => (ih true).2 rfl⟩
    · rename_i h
      rw [noAdjacent_cons]
      refine ⟨⟨fun d hd => ?_, (ih _).1⟩, fun hp d hd => ?_⟩
      · -- kept and listed: what follows starts with an unlisted character
        cases hl : cs.contains c
        · exact .inl rfl
        · exact .inr ((ih true).2 rfl d (hl ▸ hd))
      · -- kept although the previous character was listed: it is unlisted itself
        cases Option.some.inj hd
        simpa [hp] using h

theorem collapseAux_sublist [BEq α] (cs : List α) (prev : Bool) (s : List α) :
    (collapseAux cs prev s).Sublist s := by
  induction s generalizing prev with
  | nil => simp [collapseAux]
  | cons c t ih =>
    simp only [collapseAux]
    split
    · exact (ih true).cons c
    · exact (ih _).cons_cons c

theorem collapseAux_others [BEq α] (cs : List α) (prev : Bool) (s : List α) :
    (collapseAux cs prev s).filter (fun c => !cs.contains c) = s.filter (fun c => !cs.contains c) := by
  induction s generalizing prev with
  | nil => simp [collapseAux]
  | cons c t ih =>
    simp only [collapseAux]
    split
    · rename_i h
      simp only [Bool.and_eq_true] at h
      simp [h.1, ih true]
    · simp [List.filter_cons, ih]


def joinWith (sep : List α) : List (List α) → List α
  | [] => []
  | [p] => p
  | p :: q :: r => p ++ sep ++ joinWith sep (q :: r)


theorem mapChars_append (g : Char → List Char) (a b : List Char) :
    mapChars g (a ++ b) = mapChars g a ++ mapChars g b := by
  simp [mapChars]

end Tempren

import TemprenModel.Model.PyInt
namespace Tempren

theorem parseDigits_snoc (xs : List Char) (c : Char) :
    parseDigits (xs ++ [c]) = parseDigits xs * 10 + (c.toNat - 48) := by
  simp [parseDigits, List.foldl_append]

theorem parseDigits_natDigits (n : Nat) : parseDigits (natDigits n) = n := by
  induction n using natDigits.induct with
  | case1 n h => rw [natDigits, if_pos h]; simp [parseDigits, Nat.toNat_digitChar_sub_48_of_lt_ten h]
  | case2 n h ih =>
    rw [natDigits, if_neg h, parseDigits_snoc, ih, Nat.toNat_digitChar_sub_48_of_lt_ten (Nat.mod_lt _ (by omega))]
    omega

theorem natDigits_ne_nil (n : Nat) : natDigits n ≠ [] := by
  rw [natDigits]; split <;> simp

theorem natDigits_zero : natDigits 0 = ['0'] := by rw [natDigits]; simp

theorem natDigits_head (n : Nat) (hn : n ≠ 0) : (natDigits n).head? ≠ some '0' := by
  induction n using natDigits.induct with
  | case1 n h => rw [natDigits, if_pos h]; simp [hn]
  | case2 n h ih =>
    rw [natDigits, if_neg h]
    cases hd : natDigits (n / 10) with
    | nil => exact absurd hd (natDigits_ne_nil _)
    | cons a t => simpa [hd] using ih (by omega)

theorem parseDigits_zeros_append (k : Nat) (s : List Char) :
    parseDigits (List.replicate k '0' ++ s) = parseDigits s := by
  unfold parseDigits
  induction k with
  | zero => rfl
  | succ k ih => rw [List.replicate_succ, List.cons_append, List.foldl_cons]; exact ih

theorem parseDigits_zfill (w : Nat) (s : List Char) : parseDigits (zfill w s) = parseDigits s := by
  unfold zfill; exact parseDigits_zeros_append _ _

theorem length_zfill (w : Nat) (s : List Char) : (zfill w s).length = max w s.length := by
  unfold zfill; simp; omega

theorem all_digits_natDigits (n : Nat) : (natDigits n).all isDigitChar = true := by
  have hd : ∀ m < 10, isDigitChar (Nat.digitChar m) = true := by decide
  induction n using natDigits.induct with
  | case1 n h => rw [natDigits, if_pos h]; simp [hd n h]
  | case2 n h ih =>
    rw [natDigits, if_neg h, List.all_append, ih]
    simp [hd _ (Nat.mod_lt n (by omega))]

end Tempren

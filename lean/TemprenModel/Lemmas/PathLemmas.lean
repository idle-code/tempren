import TemprenModel.Model.Path
namespace Tempren

theorem rfindDot_some (n : Str) (i : Nat) (h : rfindDot n = some i) : (n.drop i).head? = some '.' := by
  induction n generalizing i with
  | nil => cases h
  | cons c t ih =>
    rw [rfindDot] at h
    cases ht : rfindDot t with
    | some j => rw [ht] at h; cases h; exact ih j ht
    | none =>
      rw [ht] at h
      dsimp only at h
      split at h <;> cases h
      simp [*]

theorem splitSlash_ne_nil (s : Str) : splitSlash s ≠ [] := by
  induction s with
  | nil => simp [splitSlash]
  | cons c t ih =>
    unfold splitSlash
    split
    · simp
    · split <;> simp

theorem splitSlash_append (p k q : Str) (qs : List Str) (h : '/' ∉ p) (hk : splitSlash k = q :: qs) :
    splitSlash (p ++ k) = (p ++ q) :: qs := by
  induction p with
  | nil => exact hk
  | cons c t ih =>
    rw [List.mem_cons, not_or] at h
    rw [List.cons_append, splitSlash, if_neg (Ne.symm h.1), ih h.2]
    rfl

theorem splitSlash_noslash (p : Str) (h : '/' ∉ p) : splitSlash p = [p] := by
  simpa using splitSlash_append p [] [] [] h rfl

theorem splitSlash_append_slash (p rest : Str) (h : '/' ∉ p) :
    splitSlash (p ++ '/' :: rest) = p :: splitSlash rest := by
  simpa using splitSlash_append p ('/' :: rest) [] (splitSlash rest) h (by simp [splitSlash])

theorem splitSlash_joinSlash (ps : List Str) (hne : ps ≠ [])
    (h : ∀ p ∈ ps, '/' ∉ p) : splitSlash (joinSlash ps) = ps := by
  induction ps with
  | nil => exact absurd rfl hne
  | cons p qs ih =>
    cases qs with
    | nil => simpa [joinSlash] using splitSlash_noslash p (h p (by simp))
    | cons q r =>
      simp only [joinSlash]
      rw [splitSlash_append_slash p _ (h p (by simp))]
      rw [ih (by simp) (fun x hx => h x (by simp [hx]))]

theorem joinSlash_concat (ps : List Str) (last : Str) (h : ps ≠ []) :
    joinSlash ps ++ '/' :: last = joinSlash (ps ++ [last]) := by
  induction ps with
  | nil => exact absurd rfl h
  | cons a t ih =>
    cases t with
    | nil => rfl
    | cons b r => simp only [List.cons_append, joinSlash, List.append_assoc]; rw [ih (by simp)]; rfl

theorem head?_joinSlash (c : Char) (cs : Str) (t : List Str) : (joinSlash ((c :: cs) :: t)).head? = some c := by
  cases t <;> rfl

/-- `PosixPath(str(p))` is `p` again when no component is empty, `.` or contains a separator -/
theorem parsePath_strPath (p : PurePath) (h : ∀ c ∈ p.parts, c ≠ [] ∧ c ≠ dot ∧ '/' ∉ c) :
    parsePath (strPath p) = p := by
  obtain ⟨abs, parts⟩ := p
  have hkeep : parts.filter (fun c => decide (c ≠ [] ∧ c ≠ dot)) = parts :=
    List.filter_eq_self.mpr fun c hc => decide_eq_true ⟨(h c hc).1, (h c hc).2.1⟩
  have hsl : ∀ c ∈ parts, '/' ∉ c := fun c hc => (h c hc).2.2
  unfold strPath parsePath
  by_cases hp : parts = []
  · subst hp; cases abs <;> simp [dot, splitSlash, joinSlash]
  cases abs
  · simp only [Bool.false_eq_true, if_false, hp]
    rw [splitSlash_joinSlash parts hp hsl, hkeep]
    congr 1
    -- relative: the text starts with the first character of the first component, which is no slash
    match parts, hp with
    | [] :: _, _ => exact absurd rfl (h [] (by simp)).1
    | (c :: cs) :: t, _ =>
      have : c ≠ '/' := fun e => (h (c :: cs) (by simp)).2.2 (by simp [e])
      rw [head?_joinSlash]; simp [this]
  · simp only [if_true]
    rw [show splitSlash ('/' :: joinSlash parts) = [] :: splitSlash (joinSlash parts) by simp [splitSlash],
      splitSlash_joinSlash parts hp hsl]
    simp only [List.head?_cons, beq_self_eq_true, List.filter_cons, ne_eq, not_true_eq_false, false_and,
      decide_false, Bool.false_eq_true, if_false, PurePath.mk.injEq, true_and]
    exact hkeep

end Tempren

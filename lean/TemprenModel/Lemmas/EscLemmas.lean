import TemprenModel.Model.Printer
/-!
The two unescape functions undo the printer's escaping.  Raw text goes through one `replace` pass per escaped
character, so a pass sees what the passes before it left: the passes are followed on runs of backslashes
(`replaceEsc_run`: what one pass leaves of a run; `unescapeText_block`: what the five leave of a doubled run).
Strings are unescaped in a single pass (`unescapeStrWith_escStr`).
-/
namespace Tempren

abbrev bs : Char := '\\'

theorem escText_cons (c : Char) (t : List Char) : escText (c :: t) = escTextChar c ++ escText t := rfl
theorem escStr_cons (q c : Char) (t : List Char) : escStr q (c :: t) = escStrChar q c ++ escStr q t := rfl

/-- a block: `n` backslashes and the character `c ≠ \` that ends the run -/
def blk (n : Nat) (c : Char) : List Char := List.replicate n bs ++ [c]

@[simp] theorem replaceEsc_nil (b) : replaceEsc b [] = [] := by simp [replaceEsc]
@[simp] theorem replaceEsc_single (b x) : replaceEsc b [x] = [x] := by simp [replaceEsc]
theorem replaceEsc_cons_cons (b x y t) :
    replaceEsc b (x :: y :: t) = if x = bs ∧ y = b then b :: replaceEsc b t else x :: replaceEsc b (y :: t) := by
  simp [replaceEsc]

theorem replaceEsc_cons_ne (b c) (hc : c ≠ bs) (t : List Char) : replaceEsc b (c :: t) = c :: replaceEsc b t := by
  cases t with
  | nil => simp
  | cons y t => rw [replaceEsc_cons_cons]; simp [hc]

/-- what the pass for `b` leaves of a run of `n` backslashes with `o` behind it: the pass for the backslash halves
    the run, rounding up; any other pass takes the last backslash when it is `b` that follows -/
def runAfter (b : Char) (n : Nat) (o : Option Char) : Nat :=
  if b = bs then (n + 1) / 2 else if o = some b then n - 1 else n

theorem replaceEsc_run (b : Char) (tail : List Char) (h : tail.head? ≠ some bs) : ∀ n,
    replaceEsc b (List.replicate n bs ++ tail) = List.replicate (runAfter b n tail.head?) bs ++ replaceEsc b tail
  | 0 => by simp [runAfter]
  | 1 => by
    cases tail with
    | nil => simp [runAfter]
    | cons c t =>
      have hc : c ≠ bs := by simpa using h
      by_cases hcb : c = b
      · subst hcb; simp [runAfter, hc, replaceEsc_cons_cons, replaceEsc_cons_ne _ _ hc]
      · simp [runAfter, hcb, replaceEsc_cons_cons, replaceEsc_cons_ne _ _ hc]
  | n + 2 => by
    -- two backslashes in front: the pass for the backslash turns the pair into one, every other pass copies the first
    have e : List.replicate (n + 2) bs ++ tail = bs :: bs :: (List.replicate n bs ++ tail) := rfl
    rw [e, replaceEsc_cons_cons]
    by_cases hb : b = bs
    · subst hb
      rw [if_pos ⟨rfl, rfl⟩, replaceEsc_run bs tail h n]
      have : runAfter bs (n + 2) tail.head? = runAfter bs n tail.head? + 1 := by
        simp [runAfter, Nat.add_right_comm]
      rw [this]; rfl
    · rw [if_neg (fun h => hb h.2.symm)]
      have ih := replaceEsc_run b tail h (n + 1)
      have : runAfter b (n + 2) tail.head? = runAfter b (n + 1) tail.head? + 1 := by
        simp only [runAfter, if_neg hb]; split <;> rfl
      rw [this, List.replicate_succ (n := runAfter _ _ _), List.cons_append, ← ih]; rfl

theorem replaceEsc_blk (b : Char) (n : Nat) (c : Char) (hc : c ≠ bs) (rest : List Char) :
    replaceEsc b (blk n c ++ rest) = blk (runAfter b n (some c)) c ++ replaceEsc b rest := by
  have := replaceEsc_run b (c :: rest) (by simpa using hc) n
  simpa [blk, replaceEsc_cons_ne _ _ hc] using this

theorem unescapeText_eq (s : List Char) :
    unescapeText s = replaceEsc '|' (replaceEsc '}' (replaceEsc '{' (replaceEsc bs (replaceEsc '\'' s)))) := rfl

theorem blk_dec (n : Nat) (b : Char) : List.replicate n bs ++ [b] = blk n b := rfl

/-- the five passes undo the escaping of one block, independently of what follows -/
theorem unescapeText_block (n : Nat) (c : Char) (hc : c ≠ bs) (rest : List Char) :
    unescapeText (blk (2 * n + (if isBraceOrPipe c then 1 else 0)) c ++ rest) = blk n c ++ unescapeText rest := by
  simp only [unescapeText_eq, replaceEsc_blk _ _ _ hc]
  congr 2
  -- before `'` the first pass takes a backslash from the doubled run and the halving, which rounds up, gives it back;
  -- before a brace or pipe the halving leaves `n + 1` and the pass for that character takes the extra one
  by_cases h1 : c = '\''
  · subst h1; cases n <;> simp (decide := true) [runAfter, Nat.mul_add, Nat.add_assoc]
  by_cases h2 : c = '{' ∨ c = '}' ∨ c = '|'
  · obtain rfl | rfl | rfl := h2 <;> simp (decide := true) [runAfter, Nat.add_assoc]
  simp only [not_or] at h2
  simp (decide := true) [runAfter, isBraceOrPipe, h1, h2, Nat.mul_add_div]

theorem unescapeText_bsRun (n : Nat) : unescapeText (List.replicate (2 * n) bs) = List.replicate n bs := by
  have h := fun b k => replaceEsc_run b [] (by simp) k
  simp only [List.append_nil, replaceEsc_nil, List.head?_nil] at h
  simp only [unescapeText_eq, h]
  congr 1
  simp (decide := true) [runAfter]; omega

/-- the round trip of raw text, with the backslashes read so far carried along: `escText` doubles a run of backslashes
    and puts one more before a brace or pipe, which is the form `unescapeText_block` undoes -/
theorem unescapeText_escText_run (s : List Char) : ∀ n,
    unescapeText (List.replicate (2 * n) bs ++ escText s) = List.replicate n bs ++ s := by
  induction s with
  | nil => intro n; simpa [escText] using unescapeText_bsRun n
  | cons c t ih =>
    intro n
    by_cases hc : c = bs
    · have e : List.replicate (2 * n) bs ++ escText (c :: t) = List.replicate (2 * (n + 1)) bs ++ escText t := by
        simp [hc, escText, escTextChar, Nat.mul_add, ← List.replicate_append_replicate]
      rw [e, ih, hc, List.replicate_succ', List.append_assoc]; rfl
    · have e : List.replicate (2 * n) bs ++ escText (c :: t) =
          blk (2 * n + (if isBraceOrPipe c then 1 else 0)) c ++ escText t := by
        simp only [escText, List.flatMap_cons, escTextChar, if_neg hc, blk]
        split <;> simp [List.replicate_succ']
      have ih0 : unescapeText (escText t) = t := by simpa using ih 0
      rw [e, unescapeText_block n c hc, ih0, blk, List.append_assoc]; rfl

theorem unescapeText_escText (s : List Char) : unescapeText (escText s) = s := by
  simpa using unescapeText_escText_run s 0

theorem unescapeStrWith_cons_ne (esc : List Char) (c : Char) (hc : c ≠ bs) (l : List Char) :
    unescapeStrWith esc (c :: l) = c :: unescapeStrWith esc l := by
  cases l with
  | nil => simp [unescapeStrWith]
  | cons d u => rw [unescapeStrWith]; simp [hc]

/-- string literals: one left-to-right pass undoes `escStr`, for every table containing the backslash and the quote -/
theorem unescapeStrWith_escStr (esc : List Char) (q : Char) (hb : bs ∈ esc) (hq : q ∈ esc) (s : List Char) :
    unescapeStrWith esc (escStr q s) = s := by
  induction s with
  | nil => rfl
  | cons c t ih =>
    rw [escStr_cons, escStrChar]
    by_cases h1 : c = bs
    · simp [h1, unescapeStrWith, hb, ih]
    · by_cases h2 : c = q
      · subst h2; simp [h1, unescapeStrWith, hq, ih]
      · simp [h1, h2, unescapeStrWith_cons_ne esc c h1, ih]

end Tempren

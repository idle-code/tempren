import TemprenModel.Model.Order
namespace Tempren

/-! ### lexicographic order, once

`strLe` (strings by code point) and `tupleLeT` (sort keys by atom) are the same lexicographic extension of an order
on the elements; that it is a total order again is proved once. -/

section
variable {α : Type} {le : α → α → Bool}

/-- a decidable total order; what sorting needs of a comparison for the result to be unique -/
structure TotalLe (le : α → α → Bool) : Prop where
  total : ∀ a b, (le a b || le b a) = true
  trans : ∀ a b c, le a b = true → le b c = true → le a c = true
  antisymm : ∀ a b, le a b = true → le b a = true → a = b

theorem TotalLe.refl (h : TotalLe le) (a : α) : le a a = true := by simpa using h.total a a

variable [DecidableEq α]

/-- the first differing position decides; a proper prefix is smaller -/
def lexLe (le : α → α → Bool) : List α → List α → Bool
  | [], _ => true
  | _ :: _, [] => false
  | a :: as, b :: bs => if a = b then lexLe le as bs else le a b

theorem TotalLe.lex (h : TotalLe le) : TotalLe (lexLe le) where
  total a b := by
    induction a generalizing b with
    | nil => rfl
    | cons x t ih =>
      cases b with
      | nil => rfl
      | cons y u =>
        by_cases e : x = y
        · simpa [lexLe, e] using ih u
        · simpa [lexLe, e, Ne.symm e] using h.total x y
  antisymm a b h1 h2 := by
    induction a generalizing b with
    | nil => cases b with
      | nil => rfl
      | cons y u => cases h2
    | cons x t ih =>
      cases b with
      | nil => cases h1
      | cons y u =>
        by_cases e : x = y
        · simp only [lexLe, e, if_true] at h1 h2
          rw [e, ih u h1 h2]
        · simp only [lexLe, e, Ne.symm e, if_false] at h1 h2
          exact absurd (h.antisymm x y h1 h2) e
  trans a b c h1 h2 := by
    induction a generalizing b c with
    | nil => rfl
    | cons x t ih =>
      cases b with
      | nil => cases h1
      | cons y u =>
        cases c with
        | nil => cases h2
        | cons z v =>
          simp only [lexLe] at h1 h2 ⊢
          by_cases hxy : x = y
          · subst hxy
            rw [if_pos rfl] at h1
            split at h2
            · rw [if_pos ‹_›]; exact ih u v h1 h2
            · rw [if_neg ‹_›]; exact h2
          · rw [if_neg hxy] at h1
            by_cases hyz : y = z
            · subst hyz
              rwa [if_neg hxy]
            · rw [if_neg hyz] at h2
              -- `x = z` would put `y` between `x` and itself
              rw [if_neg fun hxz : x = z => hxy (h.antisymm x y h1 (hxz ▸ h2))]
              exact h.trans x y z h1 h2
end

theorem strLe_eq_lexLe : strLe = lexLe (fun c d => decide (c.toNat ≤ d.toNat)) := by
  funext a b
  induction a generalizing b with
  | nil => rfl
  | cons c t ih =>
    cases b with
    | nil => rfl
    | cons d u =>
      simp only [strLe, lexLe, ih]
      by_cases h : c = d
      · simp [h]
      · have : c.toNat ≠ d.toNat := fun e => h (Char.toNat_inj.mp e)
        by_cases h1 : c.toNat < d.toNat
        · simp [h, h1, Nat.le_of_lt h1]
        · simp [h, h1, show d.toNat < c.toNat by omega]

theorem strLe_order : TotalLe strLe := by
  rw [strLe_eq_lexLe]
  refine .lex ⟨fun c d => ?_, fun c d e h1 h2 => ?_, fun c d h1 h2 => Char.toNat_inj.mp ?_⟩
  · simpa using Nat.le_total _ _
  · simp only [decide_eq_true_eq] at *; omega
  · simp only [decide_eq_true_eq] at *; omega

/-- sorting is invariant under permutation of the input (antisymmetric total order) -/
theorem sortStrs_perm {l₁ l₂ : List (List Char)} (h : l₁.Perm l₂) : sortStrs l₁ = sortStrs l₂ := by
  unfold sortStrs
  apply List.Perm.eq_of_pairwise (le := fun a b => strLe a b = true)
  · intro a b _ _ hab hba; exact strLe_order.antisymm a b hab hba
  · exact List.pairwise_mergeSort strLe_order.trans strLe_order.total l₁
  · exact List.pairwise_mergeSort strLe_order.trans strLe_order.total l₂
  · exact (List.mergeSort_perm l₁ _).trans (h.trans (List.mergeSort_perm l₂ _).symm)

theorem sortStrs_sorted (l : List (List Char)) : (sortStrs l).Pairwise (fun a b => strLe a b = true) :=
  List.pairwise_mergeSort strLe_order.trans strLe_order.total l

theorem mem_sortStrs {a : List Char} {l : List (List Char)} : a ∈ sortStrs l ↔ a ∈ l := List.mem_mergeSort

theorem atomEq_iff (a b : KeyAtom) : atomEq a b = true ↔ a = b := by
  cases a <;> cases b <;> simp [atomEq]

theorem atomLeT_order : TotalLe atomLeT where
  total a b := by
    cases a <;> cases b <;> simp [atomLeT]
    · omega
    · simpa using strLe_order.total _ _
  trans a b c h1 h2 := by
    cases a <;> cases b <;> cases c <;> simp [atomLeT] at h1 h2 ⊢
    · omega
    · exact strLe_order.trans _ _ _ h1 h2
  antisymm a b h1 h2 := by
    cases a <;> cases b <;> simp [atomLeT] at h1 h2 ⊢
    · omega
    · exact strLe_order.antisymm _ _ h1 h2

theorem atomLeT_refl (a : KeyAtom) : atomLeT a a = true := atomLeT_order.refl a

theorem tupleLeT_eq_lexLe : tupleLeT = lexLe atomLeT := by
  funext a b
  induction a generalizing b with
  | nil => rfl
  | cons x t ih => cases b <;> simp [tupleLeT, lexLe, ih]

theorem tupleLeT_order : TotalLe tupleLeT := tupleLeT_eq_lexLe ▸ atomLeT_order.lex

/-- wherever Python defines `a <= b` on tuples, the total order agrees with it -/
theorem tupleLeT_agrees (a b : List KeyAtom) (r : Bool) (h : tupleLe? a b = some r) : tupleLeT a b = r := by
  induction a generalizing b with
  | nil => simp [tupleLe?] at h; simp [tupleLeT, h]
  | cons x t ih =>
    cases b with
    | nil => simp [tupleLe?] at h; simp [tupleLeT, h]
    | cons y u =>
      simp only [tupleLe?, atomEq_iff] at h
      rw [tupleLeT]
      split at h
      · rw [if_pos ‹_›]; exact ih u h
      · rw [if_neg ‹_›]
        cases x <;> cases y <;> simp [atomLe?] at h <;> simp [atomLeT, h]

variable {α : Type}

theorem sortLe_total (key : α → List KeyAtom) (inv : Bool) (a b : α) :
    (sortLe key inv a b || sortLe key inv b a) = true := by
  cases inv <;> exact tupleLeT_order.total _ _

theorem sortLe_trans (key : α → List KeyAtom) (inv : Bool) (a b c : α)
    (h1 : sortLe key inv a b = true) (h2 : sortLe key inv b c = true) : sortLe key inv a c = true := by
  cases inv
  · exact tupleLeT_order.trans _ _ _ h1 h2
  · exact tupleLeT_order.trans _ _ _ h2 h1

theorem sortLe_of_key_eq (key : α → List KeyAtom) (inv : Bool) (a b : α) (h : key a = key b) :
    sortLe key inv a b = true := by
  unfold sortLe; rw [h]; cases inv <;> exact tupleLeT_order.refl _

/-- a tie of the comparator means equal keys (the converse is `sortLe_of_key_eq`) -/
theorem sortLe_antisymm_key (key : α → List KeyAtom) (inv : Bool) (a b : α)
    (h1 : sortLe key inv a b = true) (h2 : sortLe key inv b a = true) : key a = key b := by
  cases inv
  · exact tupleLeT_order.antisymm _ _ h1 h2
  · exact tupleLeT_order.antisymm _ _ h2 h1

end Tempren

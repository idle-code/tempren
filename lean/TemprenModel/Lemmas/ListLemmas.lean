/-!
Facts about core's lists that core does not state: `List.span` is `takeWhile` and `dropWhile`, an element splits a list
at its position, a `Nodup` image makes the function injective on the list, the positions of a two-element list.
-/
namespace Tempren

theorem uniq_of_nodup_map {α β : Type} (f : α → β) (l : List α) (hn : (l.map f).Nodup) :
    ∀ a ∈ l, ∀ b ∈ l, f a = f b → a = b := by
  have h : l.Pairwise (fun a b => f a ≠ f b) := List.pairwise_map.mp hn
  exact fun a ha b hb => List.Pairwise.forall_of_forall_of_flip (R := fun a b => f a = f b → a = b)
    (fun _ _ _ => rfl) (h.imp fun hne e => absurd e hne) (h.imp fun hne e => absurd e.symm hne) ha hb

theorem drop_cons {α : Type} {l : List α} {i : Nat} {a : α} {t : List α} (h : l.drop i = a :: t) :
    l[i]? = some a ∧ l.drop (i + 1) = t := by
  have h0 := congrArg (·[0]?) h
  exact ⟨by simpa using h0, by simpa [List.drop_drop, Nat.add_comm] using congrArg (List.drop 1) h⟩

theorem take_cons_drop {α : Type} (q : α) (l : List α) (i : Nat) (h : l[i]? = some q) :
    l.take i ++ q :: l.drop (i + 1) = l := by
  obtain ⟨hi, rfl⟩ := List.getElem?_eq_some_iff.mp h
  rw [← List.drop_eq_getElem_cons hi, List.take_append_drop]

theorem span_loop_eq {α : Type} (p : α → Bool) : ∀ (l acc : List α),
    List.span.loop p l acc = (acc.reverse ++ l.takeWhile p, l.dropWhile p) := by
  intro l
  induction l with
  | nil => intro acc; simp [List.span.loop]
  | cons c t ih =>
    intro acc
    by_cases hc : p c = true
    · simp [List.span.loop, hc, ih]
    · simp [List.span.loop, hc]

theorem span_eq {α : Type} (p : α → Bool) (l : List α) : l.span p = (l.takeWhile p, l.dropWhile p) := by
  simp [List.span, span_loop_eq]

theorem span_append {α : Type} (p : α → Bool) (l : List α) : (l.span p).1 ++ (l.span p).2 = l := by
  rw [span_eq]; exact List.takeWhile_append_dropWhile

theorem span_cons {α : Type} {p : α → Bool} {c : α} (hc : p c = true) (t : List α) :
    (c :: t).span p = (c :: (t.span p).1, (t.span p).2) := by
  simp [span_eq, hc]

theorem span_all {α : Type} {p : α → Bool} {a : List α} (ha : a.all p = true) {c' : α} (hc : p c' = false) (rest : List α) :
    (a ++ c' :: rest).span p = (a, c' :: rest) := by
  have ha' := List.all_eq_true.mp ha
  rw [span_eq, List.takeWhile_append_of_pos ha', List.dropWhile_append_of_pos ha']
  simp [hc]

theorem getElem?_pair {α : Type} {a b x : α} {k : Nat} (h : [a, b][k]? = some x) : k = 0 ∧ x = a ∨ k = 1 ∧ x = b := by
  match k, h with
  | 0, h => exact .inl ⟨rfl, (Option.some.inj h).symm⟩
  | 1, h => exact .inr ⟨rfl, (Option.some.inj h).symm⟩

theorem lt_getElem?_pair {α : Type} {a b x₁ x₂ : α} {k₁ k₂ : Nat} (hlt : k₁ < k₂) (h₁ : [a, b][k₁]? = some x₁)
    (h₂ : [a, b][k₂]? = some x₂) : k₁ = 0 ∧ k₂ = 1 ∧ x₁ = a ∧ x₂ = b := by
  rcases getElem?_pair h₁ with ⟨rfl, rfl⟩ | ⟨rfl, rfl⟩ <;> rcases getElem?_pair h₂ with ⟨rfl, rfl⟩ | ⟨rfl, rfl⟩ <;>
    first | exact ⟨rfl, rfl, rfl, rfl⟩ | omega

end Tempren

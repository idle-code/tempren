import TemprenModel.Model.Pipeline
/-!
The control structure of `execute`, once: `execute_rel`.  Two runs whose renamers answer alike stay in
lockstep; what a single run preserves (`execute_induct`) is the diagonal case.
-/
namespace Tempren
variable {σ σ₁ σ₂ : Type}

/-- the user did not choose override: the flag is stop or ignore, or every manual answer differs from override -/
def NoOverride (strategy : Strategy) (answers : List Answer) : Prop :=
  strategy = .stop ∨ strategy = .ignore ∨ (strategy = .manual ∧ Answer.override ∉ answers)

theorem NoOverride.mono {s : Strategy} {as as' : List Answer} (hsub : ∀ a ∈ as', a ∈ as) (h : NoOverride s as) :
    NoOverride s as' :=
  h.imp id (.imp id (.imp id fun hn hm => hn (hsub _ hm)))

/-- the `except` table of `main()` (E3) walked once for every exception class the model raises; all other exit-status
    facts are read off this one -/
theorem exitStatusOf_table :
    exitStatusOf "DestinationAlreadyExistsError".toList = 1 ∧ exitStatusOf "InvalidDestinationError".toList = 1 ∧
    exitStatusOf "OSError".toList = 126 ∧ exitStatusOf "TemplateSyntaxError".toList = 3 ∧
    exitStatusOf "TemplateSemanticError".toList = 3 ∧ exitStatusOf "TemplateEvaluationError".toList = 4 ∧
    exitStatusOf "ConfigurationError".toList = 2 := by decide +kernel

theorem exitStatus_table :
    Outcome.done.exitStatus = 0 ∧ Outcome.destExists.exitStatus = 1 ∧ Outcome.invalidDest.exitStatus = 1 ∧
    Outcome.crash.exitStatus = 126 :=
  ⟨rfl, exitStatusOf_table.1, exitStatusOf_table.2.1, exitStatusOf_table.2.2.1⟩

theorem Run.call_eq (R : Renamer σ) (r : Run σ) (dir : APath) (src dst : PurePath) (ov : Bool) :
    r.call R dir src dst ov =
      ({ st := (R.call r.st dir src dst ov).1,
         events := if (R.call r.st dir src dst ov).2 = none
                   then r.events ++ [{ dir := dir, src := src, dst := dst, override := ov }] else r.events,
         calls := r.calls ++ [(dir, src, dst, ov)] },
       (R.call r.st dir src dst ov).2) := by
  unfold Run.call
  cases h : R.call r.st dir src dst ov with
  | mk st' err => cases err <;> rfl

theorem Run.call_of_eq {R : Renamer σ} {r : Run σ} {dir : APath} {src dst : PurePath} {ov : Bool} {st' : σ}
    {e : Option RenErr} (h : R.call r.st dir src dst ov = (st', e)) :
    ∃ r', r.call R dir src dst ov = (r', e) ∧ r'.st = st' := by
  rw [Run.call_eq, h]
  exact ⟨_, rfl, rfl⟩

theorem Run.call_st (R : Renamer σ) (r : Run σ) (dir : APath) (src dst : PurePath) (ov : Bool) :
    (r.call R dir src dst ov).1.st = (R.call r.st dir src dst ov).1 := by rw [Run.call_eq]

theorem Run.call_calls (R : Renamer σ) (r : Run σ) (dir : APath) (src dst : PurePath) (ov : Bool) :
    (r.call R dir src dst ov).1.calls = r.calls ++ [(dir, src, dst, ov)] := by rw [Run.call_eq]

theorem Run.call_err (R : Renamer σ) (r : Run σ) (dir : APath) (src dst : PurePath) (ov : Bool) :
    (r.call R dir src dst ov).2 = (R.call r.st dir src dst ov).2 := by rw [Run.call_eq]

theorem Run.call_events (R : Renamer σ) (r : Run σ) (dir : APath) (src dst : PurePath) (ov : Bool) :
    (r.call R dir src dst ov).1.events =
      if (r.call R dir src dst ov).2 = none then r.events ++ [{ dir := dir, src := src, dst := dst, override := ov }]
      else r.events := by rw [Run.call_eq]

namespace C05

/-- two renamer errors the pipeline cannot tell apart -/
def ErrSim : Option RenErr → Option RenErr → Prop
  | none, none => True
  | some a, some b => a.isFileExists = b.isFileExists ∧ outcomeOfErr a = outcomeOfErr b ∧ (a = .fileExists ↔ b = .fileExists)
  | _, _ => False

theorem ErrSim.refl (e : Option RenErr) : ErrSim e e := by
  cases e with
  | none => trivial
  | some a => exact ⟨rfl, rfl, Iff.rfl⟩

end C05
open C05

/-- the answers left after a conflict has been resolved are among those there were before -/
theorem resolveConflict_answers (R : Renamer σ) (r : Run σ) (dir : APath) (src dst : PurePath) (s : Strategy)
    (as : List Answer) : ∀ a ∈ (resolveConflict R r dir src dst s as).2.1, a ∈ as := by
  -- every branch returns `as` itself or, having read an answer, its tail
  fun_cases resolveConflict R r dir src dst s as <;>
    first | exact fun a h => h | exact fun a h => List.mem_cons_of_mem _ h

/-- how `resolveConflict` ends after the one call it makes: any failure ends the run, a second `FileExistsError` as a crash -/
def endOfCall (c : Run σ × Option RenErr) (rest : List Answer) : Run σ × List Answer × Option Outcome :=
  match c with
  | (r', none) => (r', rest, none)
  | (r', some e) => (r', rest, some (if e = .fileExists then .crash else outcomeOfErr e))

section
-- `ovOK` is what an overriding call may assume: in `execute_rel`, that override was chosen.  It is a variable because the
-- second pass uses up answers, and `¬ NoOverride` of the answers left says less than of all of them.
variable {R₁ : Renamer σ₁} {R₂ : Renamer σ₂} {Q : Run σ₁ → Run σ₂ → Prop} {G : APath → PurePath → PurePath → Prop}
  {ovOK : Prop}
  (hview : ∀ r₁ r₂ dir p, Q r₁ r₂ → contained (R₁.view r₁.st) dir p = contained (R₂.view r₂.st) dir p)
  (hcall : ∀ r₁ r₂ dir src dst ov, Q r₁ r₂ → G dir src dst →
    (ov = false → contained (R₁.view r₁.st) dir dst = .ok true) → (ov = true → ovOK) →
    Q (r₁.call R₁ dir src dst ov).1 (r₂.call R₂ dir src dst ov).1 ∧
    ErrSim (r₁.call R₁ dir src dst ov).2 (r₂.call R₂ dir src dst ov).2)
include hview hcall

/-- two first passes in lockstep: the runs stay related, backlog and outcome agree, and what was deferred beyond `bl` are
    calls `G` allows, for files of the list (the second pass needs that to ask `hcall` about them) -/
theorem firstPass_rel (gen : Nat → Gen) :
    ∀ (files : List FileRec) (i : Nat) (r₁ : Run σ₁) (r₂ : Run σ₂) (bl : Backlog),
      (∀ k f, files[k]? = some f → ∀ p, gen (i + k) = .path p → p ≠ f.rel → G f.inputDir f.rel p) → Q r₁ r₂ →
      Q (firstPass R₁ gen i files r₁ bl).1 (firstPass R₂ gen i files r₂ bl).1 ∧
      (firstPass R₁ gen i files r₁ bl).2 = (firstPass R₂ gen i files r₂ bl).2 ∧
      ∀ x ∈ (firstPass R₁ gen i files r₁ bl).2.1, x ∈ bl ∨
        (G x.1 x.2.1 x.2.2 ∧ ∃ f ∈ files, x.1 = f.inputDir ∧ x.2.1 = f.rel) := by
  intro files
  induction files with
  | nil => intro i r₁ r₂ bl _ h; exact ⟨h, rfl, fun x hx => .inl hx⟩
  | cons f rest ih =>
    intro i r₁ r₂ bl hG h
    have ih' : ∀ r₁ r₂ bl', Q r₁ r₂ → _ ∧ _ ∧ ∀ x ∈ (firstPass R₁ gen (i + 1) rest r₁ bl').2.1, x ∈ bl' ∨
        (G x.1 x.2.1 x.2.2 ∧ ∃ f' ∈ f :: rest, x.1 = f'.inputDir ∧ x.2.1 = f'.rel) := fun r₁ r₂ bl' h =>
      (ih (i + 1) r₁ r₂ bl' (fun k f' hf' p hgp =>
        hG (k + 1) f' hf' p (by rwa [Nat.add_right_comm] at hgp)) h).imp id (.imp id fun h3 x hx =>
          (h3 x hx).imp id (.imp id fun ⟨f', hf', h⟩ => ⟨f', List.mem_cons_of_mem _ hf', h⟩))
    rw [firstPass, firstPass]
    cases hg : gen i with
    | invalidName => exact ⟨h, rfl, fun x hx => .inl hx⟩
    | error => exact ⟨h, rfl, fun x hx => .inl hx⟩
    | path p =>
      dsimp only
      by_cases hp : p = f.rel
      · rw [if_pos hp, if_pos hp]; exact ih' _ _ _ h
      · rw [if_neg hp, if_neg hp, ← hview r₁ r₂ f.inputDir p h]
        have hGp := hG 0 f rfl p hg hp
        cases hc : contained (R₁.view r₁.st) f.inputDir p with
        | error e => cases e <;> exact ⟨h, rfl, fun x hx => .inl hx⟩
        | ok b =>
          cases b with
          | false => exact ⟨h, rfl, fun x hx => .inl hx⟩
          | true =>
            obtain ⟨hq, he⟩ := hcall r₁ r₂ f.inputDir f.rel p false h hGp (fun _ => hc) (by simp)
            dsimp only
            generalize r₁.call R₁ f.inputDir f.rel p false = c₁ at hq he
            generalize r₂.call R₂ f.inputDir f.rel p false = c₂ at hq he
            obtain ⟨r₁', e₁⟩ := c₁
            obtain ⟨r₂', e₂⟩ := c₂
            cases e₁ <;> cases e₂ <;> simp only [ErrSim] at he
            · exact ih' _ _ _ hq
            · obtain ⟨hfe, hout, _⟩ := he
              dsimp only
              rw [hfe, hout]
              split
              · obtain ⟨h1, h2, h3⟩ := ih' r₁' r₂' (bl ++ [(f.inputDir, f.rel, p)]) hq
                refine ⟨h1, h2, fun x hx => ?_⟩
                rcases h3 x hx with h3 | h3
                · rcases List.mem_append.mp h3 with h3 | h3
                  · exact .inl h3
                  · rw [List.mem_singleton.mp h3]; exact .inr ⟨hGp, f, List.mem_cons_self, rfl, rfl⟩
                · exact .inr h3
              · exact ⟨hq, rfl, fun x hx => .inl hx⟩

theorem resolveConflict_rel (r₁ : Run σ₁) (r₂ : Run σ₂) (h : Q r₁ r₂) (dir : APath) (src dst : PurePath)
    (s : Strategy) (as : List Answer) (hg : G dir src dst) (hcust : ∀ q, Answer.custom q ∈ as → G dir src q)
    (hov : ¬ NoOverride s as → ovOK) :
    Q (resolveConflict R₁ r₁ dir src dst s as).1 (resolveConflict R₂ r₂ dir src dst s as).1 ∧
    (resolveConflict R₁ r₁ dir src dst s as).2 = (resolveConflict R₂ r₂ dir src dst s as).2 := by
  -- a call whose failure ends the run
  have key : ∀ (d : PurePath) (ov : Bool) (rest : List Answer), G dir src d →
      (ov = false → contained (R₁.view r₁.st) dir d = .ok true) → (ov = true → ovOK) →
      Q (endOfCall (r₁.call R₁ dir src d ov) rest).1 (endOfCall (r₂.call R₂ dir src d ov) rest).1 ∧
      (endOfCall (r₁.call R₁ dir src d ov) rest).2 = (endOfCall (r₂.call R₂ dir src d ov) rest).2 := by
    intro d ov rest hgd hc ho
    obtain ⟨hq, he⟩ := hcall r₁ r₂ dir src d ov h hgd hc ho
    generalize r₁.call R₁ dir src d ov = c₁ at hq he
    generalize r₂.call R₂ dir src d ov = c₂ at hq he
    obtain ⟨r₁', e₁⟩ := c₁
    obtain ⟨r₂', e₂⟩ := c₂
    cases e₁ <;> cases e₂ <;> simp only [ErrSim] at he
    · exact ⟨hq, rfl⟩
    · obtain ⟨_, hout, hfx⟩ := he
      refine ⟨hq, ?_⟩
      simp only [endOfCall, hout, hfx]
  cases s with
  | stop => exact ⟨h, rfl⟩
  | ignore => exact ⟨h, rfl⟩
  | override =>
    exact key dst true as hg (by simp) fun _ => hov (by simp [NoOverride])
  | manual =>
    cases as with
    | nil => exact ⟨h, rfl⟩
    | cons a rest =>
      cases a with
      | stop => exact ⟨h, rfl⟩
      | ignore => exact ⟨h, rfl⟩
      | override => exact key dst true rest hg (by simp) fun _ => hov (by simp [NoOverride])
      | custom p =>
        simp only [resolveConflict]
        rw [← hview r₁ r₂ dir p h]
        cases hc : contained (R₁.view r₁.st) dir p with
        | error e => cases e <;> exact ⟨h, rfl⟩
        | ok b =>
          cases b with
          | false => exact ⟨h, rfl⟩
          | true => exact key p false rest (hcust p List.mem_cons_self) (fun _ => hc) (by simp)

theorem secondPass_rel (s : Strategy) :
    ∀ (bl : Backlog) (r₁ : Run σ₁) (r₂ : Run σ₂) (as : List Answer),
      (∀ x ∈ bl, G x.1 x.2.1 x.2.2 ∧ ∀ q, Answer.custom q ∈ as → G x.1 x.2.1 q) → (¬ NoOverride s as → ovOK) →
      Q r₁ r₂ →
      Q (secondPass R₁ s bl r₁ as).1 (secondPass R₂ s bl r₂ as).1 ∧
      (secondPass R₁ s bl r₁ as).2 = (secondPass R₂ s bl r₂ as).2 := by
  intro bl
  induction bl with
  | nil => intro r₁ r₂ as _ _ h; exact ⟨h, rfl⟩
  | cons x rest ih =>
    intro r₁ r₂ as hbl hov h
    obtain ⟨dir, src, dst⟩ := x
    obtain ⟨hg, hcust⟩ := hbl (dir, src, dst) List.mem_cons_self
    rw [secondPass, secondPass, ← hview r₁ r₂ dir dst h]
    cases hc : contained (R₁.view r₁.st) dir dst with
    | error e => cases e <;> exact ⟨h, rfl⟩
    | ok b =>
      cases b with
      | false => exact ⟨h, rfl⟩
      | true =>
        obtain ⟨hq, he⟩ := hcall r₁ r₂ dir src dst false h hg (fun _ => hc) (by simp)
        dsimp only
        generalize r₁.call R₁ dir src dst false = c₁ at hq he
        generalize r₂.call R₂ dir src dst false = c₂ at hq he
        obtain ⟨r₁', e₁⟩ := c₁
        obtain ⟨r₂', e₂⟩ := c₂
        have hrest := fun x hx => hbl x (List.mem_cons_of_mem _ hx)
        cases e₁ <;> cases e₂ <;> simp only [ErrSim] at he
        · exact ih _ _ _ hrest hov hq
        · obtain ⟨hfe, hout, _⟩ := he
          dsimp only
          rw [hfe, hout]
          split
          · obtain ⟨hq', heq⟩ := resolveConflict_rel hview hcall r₁' r₂' hq dir src dst s as hg hcust hov
            have hsuf := resolveConflict_answers R₁ r₁' dir src dst s as
            generalize resolveConflict R₁ r₁' dir src dst s as = c₁ at hq' heq hsuf
            generalize resolveConflict R₂ r₂' dir src dst s as = c₂ at hq' heq
            obtain ⟨q₁, as', o⟩ := c₁
            obtain ⟨q₂, t₂⟩ := c₂
            cases heq
            cases o with
            | some o => exact ⟨hq', rfl⟩
            | none =>
              exact ih _ _ _ (fun x hx => ⟨(hrest x hx).1, fun q hq => (hrest x hx).2 q (hsuf _ hq)⟩)
                (fun hn => hov fun hno => hn (hno.mono hsuf)) hq'
          · exact ⟨hq, rfl⟩
end

/-- **the pipeline, once.**  `Q` relates the two runs; it has to survive every pair of corresponding calls the
    pipeline can make: for a file of the list, towards its generated path or a custom answer (`G`), after a positive
    containment verdict on the state the call acts on unless overriding, overriding only if the user chose to. -/
theorem execute_rel {R₁ : Renamer σ₁} {R₂ : Renamer σ₂} {Q : Run σ₁ → Run σ₂ → Prop}
    {G : APath → PurePath → PurePath → Prop} (files : List FileRec) (gen : Nat → Gen) (s : Strategy) (as : List Answer)
    (hview : ∀ r₁ r₂ dir p, Q r₁ r₂ → contained (R₁.view r₁.st) dir p = contained (R₂.view r₂.st) dir p)
    (hcall : ∀ r₁ r₂ dir src dst ov, Q r₁ r₂ → G dir src dst →
      (ov = false → contained (R₁.view r₁.st) dir dst = .ok true) → (ov = true → ¬ NoOverride s as) →
      Q (r₁.call R₁ dir src dst ov).1 (r₂.call R₂ dir src dst ov).1 ∧
      ErrSim (r₁.call R₁ dir src dst ov).2 (r₂.call R₂ dir src dst ov).2)
    (hplan : ∀ k f, files[k]? = some f → ∀ p, gen k = .path p → p ≠ f.rel → G f.inputDir f.rel p)
    (hcust : ∀ f ∈ files, ∀ q, Answer.custom q ∈ as → G f.inputDir f.rel q)
    (s₁ : σ₁) (s₂ : σ₂) (h0 : Q { st := s₁ } { st := s₂ }) :
    Q (execute R₁ s₁ files gen s as).1 (execute R₂ s₂ files gen s as).1 ∧
    (execute R₁ s₁ files gen s as).2 = (execute R₂ s₂ files gen s as).2 := by
  obtain ⟨hq, heq, hbl⟩ := firstPass_rel hview hcall gen files 0 { st := s₁ } { st := s₂ } []
    (fun k f hf p hg => hplan k f hf p (by simpa using hg)) h0
  unfold execute
  generalize firstPass R₁ gen 0 files { st := s₁ } [] = c₁ at hq heq hbl
  generalize firstPass R₂ gen 0 files { st := s₂ } [] = c₂ at hq heq
  obtain ⟨r₁, bl, o⟩ := c₁
  obtain ⟨r₂, t₂⟩ := c₂
  cases heq
  cases o with
  | some o => exact ⟨hq, rfl⟩
  | none =>
    obtain ⟨hq', heq'⟩ := secondPass_rel hview hcall s bl.reverse r₁ r₂ as (fun x hx => by
      rcases hbl x (List.mem_reverse.mp hx) with h | ⟨hg, f, hf, hd, hs⟩
      · cases h
      · exact ⟨hg, by rw [hd, hs]; exact hcust f hf⟩) id hq
    dsimp only
    generalize secondPass R₁ s bl.reverse r₁ as = d₁ at hq' heq'
    generalize secondPass R₂ s bl.reverse r₂ as = d₂ at hq' heq'
    obtain ⟨q₁, o⟩ := d₁
    obtain ⟨q₂, o₂⟩ := d₂
    cases heq'
    cases o <;> exact ⟨hq', rfl⟩

/-- what every call the pipeline can make preserves, the run preserves -/
theorem execute_induct (R : Renamer σ) (J : Run σ → Prop) (st : σ) (files : List FileRec) (gen : Nat → Gen)
    (s : Strategy) (as : List Answer)
    (hJ : ∀ r dir src dst ov, J r → (ov = false → contained (R.view r.st) dir dst = .ok true) →
      (ov = true → ¬ NoOverride s as) → J (r.call R dir src dst ov).1)
    (h0 : J { st := st }) : J (execute R st files gen s as).1 :=
  (execute_rel (Q := fun r₁ r₂ => r₁ = r₂ ∧ J r₁) (G := fun _ _ _ => True) files gen s as
    (fun _ _ _ _ h => by rw [h.1])
    (fun r₁ r₂ dir src dst ov h _ hc ho => by
      obtain ⟨rfl, h⟩ := h
      exact ⟨⟨rfl, hJ r₁ dir src dst ov h hc ho⟩, ErrSim.refl _⟩)
    (fun _ _ _ _ _ _ => trivial) (fun _ _ _ _ => trivial) st st ⟨rfl, h0⟩).1.2

theorem secondPass_induct (R : Renamer σ) (J : Run σ → Prop) (s : Strategy) (bl : Backlog) (r : Run σ) (as : List Answer)
    (hJ : ∀ r dir src dst ov, J r → (ov = false → contained (R.view r.st) dir dst = .ok true) →
      (ov = true → ¬ NoOverride s as) → J (r.call R dir src dst ov).1)
    (h0 : J r) : J (secondPass R s bl r as).1 :=
  (secondPass_rel (Q := fun r₁ r₂ => r₁ = r₂ ∧ J r₁) (G := fun _ _ _ => True)
    (fun _ _ _ _ h => by rw [h.1])
    (fun r₁ r₂ dir src dst ov h _ hc ho => by
      obtain ⟨rfl, h⟩ := h
      exact ⟨⟨rfl, hJ r₁ dir src dst ov h hc ho⟩, ErrSim.refl _⟩)
    s bl r r as (fun _ _ => ⟨trivial, fun _ _ => trivial⟩) id ⟨rfl, h0⟩).1.2

/-- `execute_induct` unless override was chosen: every call is then one without override, made right after its
    destination was found inside the input directory -/
theorem execute_induct_noOverride (R : Renamer σ) (J : Run σ → Prop) (st : σ) (files : List FileRec) (gen : Nat → Gen)
    (s : Strategy) (as : List Answer) (hs : NoOverride s as)
    (hJ : ∀ r dir src dst, J r → contained (R.view r.st) dir dst = .ok true → J (r.call R dir src dst false).1)
    (h0 : J { st := st }) : J (execute R st files gen s as).1 :=
  execute_induct R J st files gen s as (fun r dir src dst ov h hc hov => by
    cases ov with
    | false => exact hJ r dir src dst h (hc rfl)
    | true => exact absurd hs (hov rfl)) h0

theorem Run.call_events_mem {R : Renamer σ} {r : Run σ} {dir : APath} {src dst : PurePath} {ov : Bool} {e : Event}
    (he : e ∈ (r.call R dir src dst ov).1.events) : e ∈ r.events ∨ e.override = ov := by
  rw [Run.call_events] at he
  split at he
  · exact (List.mem_append.mp he).imp id fun h => by rw [List.mem_singleton.mp h]
  · exact .inl he

theorem execute_events_noOverride (R : Renamer σ) (st : σ) (files : List FileRec) (gen : Nat → Gen) {s : Strategy}
    {as : List Answer} (hs : NoOverride s as) : ∀ e ∈ (execute R st files gen s as).1.events, e.override = false :=
  execute_induct_noOverride R (fun r => ∀ e ∈ r.events, e.override = false) st files gen s as hs
    (fun _ _ _ _ h _ e he => (Run.call_events_mem he).elim (h e) id) (fun _ h => nomatch h)

end Tempren

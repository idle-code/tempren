import TemprenModel.Lemmas.SimLemmas
import TemprenModel.Model.Report
/-!
Name-mode calls — a plain name renamed to another plain name of the same directory (`C05.NameCall`) — and what
the real and the dry-run renamer do on one: each in closed form over the two keys `absKey dir src`, `absKey dir dst`
(`Resolved.fileRenamer_eq`, `Resolved.dryRunRenamer_eq`; the specification renamer's is in `Props/C05Report.lean`).
-/
namespace Tempren

namespace C06

/-- no symbolic link anywhere (the statements about symlinked components are tied by correspondence) -/
def NoLinks (fs : FS) : Prop := ∀ e ∈ fs, ∀ t, e.kind ≠ .link t

theorem resolveAux_nolinks {fs : FS} (h : NoLinks fs) (fuel : Nat) :
    ∀ (parts : List Name) (cur : APath), resolveAux fs fuel cur parts = .ok (lexNorm cur parts) := by
  intro parts
  induction parts with
  | nil => intro cur; rw [resolveAux]; rfl
  | cons c rest ih =>
    intro cur
    rw [resolveAux, lexNorm]
    by_cases hc : c = dotdot
    · rw [if_pos hc, if_pos hc]; exact ih _
    · rw [if_neg hc, if_neg hc]
      cases hf : fs.find (cur ++ [c]) with
      | none => simp only [hf]; exact ih _
      | some e =>
        simp only [hf]
        cases hk : e.kind with
        | file => exact ih _
        | dir => exact ih _
        | link t => exact absurd hk (h e (find_some_mem hf).1 t)

end C06

namespace C05

/-- without links `Path.resolve()` is `os.path.abspath` -/
theorem linkFree_resolve {fs : FS} (h : LinkFree fs) (dir : APath) (p : PurePath) :
    contained fs dir p = .ok (dir.isPrefixOf (absKey dir p)) := by
  unfold contained resolvePath
  rw [C06.resolveAux_nolinks h]
  rfl

/-- what a path "virtually exists" means in the dry-run state -/
def vexists (d : DryState) (k : APath) : Bool := (lexists d.base k || d.created.contains k) && !d.removed.contains k

/-- the dry-run bookkeeping of one rename `a → b` is `applyMove` on virtual existence -/
theorem vexists_move (d : DryState) {a b : APath} (hab : a ≠ b) (p : APath) :
    vexists { d with removed := (d.removed ++ [a]).filter (· ≠ b), created := (d.created ++ [b]).filter (· ≠ a) } p =
      applyMove (vexists d) a b p := by
  unfold vexists
  fun_cases applyMove _ a b p
  · subst ‹p = b›
    simp [List.mem_filter, Ne.symm hab]
  · subst ‹p = a›
    simp [List.mem_filter, hab]
  · simp [List.mem_filter, *]

theorem applyMove_true {occ : APath → Bool} {a b x : APath} (h : applyMove occ a b x = true) : occ x = true ∨ x = b := by
  revert h
  fun_cases applyMove occ a b x
  · exact fun _ => .inr ‹_›
  · exact nofun
  · exact .inl

theorem applyMove_false {occ : APath → Bool} {a b x : APath} (h : applyMove occ a b x = false) : occ x = false ∨ x = a := by
  revert h
  fun_cases applyMove occ a b x
  · exact nofun
  · exact fun _ => .inr ‹_›
  · exact .inl

/-- **one more rename in a closed form.**  If a path exists iff somebody went there (`Dst`), or it existed at first and
    nobody left from it (`Src`), then after a rename `a → b`, nobody having gone to `a`, the same holds
    with `b` gone to and `a` left from. -/
theorem applyMove_closed {occ base : APath → Bool} {Dst Src : APath → Prop} {a b : APath}
    (h : ∀ x, occ x = true ↔ Dst x ∨ (base x = true ∧ ¬ Src x)) (ha : ¬ Dst a) (x : APath) :
    applyMove occ a b x = true ↔ (Dst x ∨ b = x) ∨ (base x = true ∧ ¬ (Src x ∨ a = x)) := by
  fun_cases applyMove occ a b x
  · exact iff_of_true rfl (.inl (.inr ‹x = b›.symm))
  · rename_i hxb hxa
    refine iff_of_false Bool.false_ne_true ?_
    rintro ((hd | e) | ⟨_, hn⟩)
    · exact ha (hxa ▸ hd)
    · exact hxb e.symm
    · exact hn (.inr hxa.symm)
  · rename_i hxb hxa
    rw [h x]
    simp only [Ne.symm hxb, Ne.symm hxa, or_false]

/-- renaming a leaf changes what really exists the way `applyMove` says (`vexists_move` is the virtual counterpart) -/
theorem _root_.Tempren.LeafMove.lexists_eq {fs : FS} {a b : APath} {ea : Entry} (h : LeafMove fs a b ea) (p : APath) :
    lexists (moved fs a b) p = applyMove (lexists fs) a b p := by
  fun_cases applyMove (lexists fs) a b p
  · rw [‹p = b›]
    exact (lexists_iff b).mpr (.inr ⟨_, h.mem.mpr (.inl rfl), rfl⟩)
  · rw [‹p = a›, Bool.eq_false_iff]
    intro hex
    rcases (lexists_iff a).mp hex with h0 | ⟨d, hd, hdp⟩
    · exact h.src_ne_nil h0
    · rcases h.mem.mp hd with rfl | ⟨_, hne, _⟩
      · exact h.ne hdp.symm
      · exact hne hdp
  · rename_i hpb hpa
    rw [Bool.eq_iff_iff, lexists_iff, lexists_iff]
    refine or_congr_right ⟨fun ⟨d, hd, hdp⟩ => ?_, fun ⟨d, hd, hdp⟩ => ?_⟩
    · rcases h.mem.mp hd with rfl | ⟨hd, _, _⟩
      · exact absurd hdp.symm hpb
      · exact ⟨d, hd, hdp⟩
    · exact ⟨d, h.mem.mpr (.inr ⟨hd, hdp ▸ hpa, hdp ▸ hpb⟩), hdp⟩

/-- the calls of a name-mode run: source `n` and destination `m` are different plain names in one directory
    `dir/sp` all of whose ancestors are directories, and neither is (initially) a directory -/
def NameCall (base : FS) (dir : APath) (src dst : PurePath) : Prop :=
  ∃ (sp : List Name) (n m : Name),
    src = ⟨false, sp ++ [n]⟩ ∧ dst = ⟨false, sp ++ [m]⟩ ∧ n ≠ m ∧ n ≠ dotdot ∧ m ≠ dotdot ∧ (∀ c ∈ sp, c ≠ dotdot) ∧
    (∀ k, k ≤ sp.length → isDirAt base (dir ++ sp.take k) = true) ∧
    isDirAt base (dir ++ sp ++ [n]) = false ∧ isDirAt base (dir ++ sp ++ [m]) = false

/-- a name-mode call in terms of its keys: everything the renamers look at -/
structure Resolved (base : FS) (dir : APath) (src dst : PurePath) : Prop where
  ne : absKey dir src ≠ absKey dir dst
  len : (absKey dir src).length = (absKey dir dst).length
  sibling : (absKey dir src).dropLast = (absKey dir dst).dropLast
  parent : parentOf src = parentOf dst
  inside : dir.isPrefixOf (absKey dir dst) = true
  parentDir : isDirAt base (absKey dir dst).dropLast = true
  srcLeaf : isDirAt base (absKey dir src) = false
  dstLeaf : isDirAt base (absKey dir dst) = false
  /-- the kernel's walk ends where lexical joining ends, in every link-free tree with the same directories -/
  walk : ∀ fs, LinkFree fs → (∀ p, isDirAt fs p = isDirAt base p) →
    walkPath fs dir src = .ok (absKey dir src) ∧ walkPath fs dir dst = .ok (absKey dir dst)

theorem NameCall.resolved {base : FS} {dir : APath} {src dst : PurePath} (hG : NameCall base dir src dst) :
    Resolved base dir src dst := by
  obtain ⟨sp, n, m, rfl, rfl, hnm, hn, hm, hsp, hanc, hna, hnb⟩ := hG
  have hplain : ∀ x : Name, x ≠ dotdot → ∀ c ∈ sp ++ [x], c ≠ dotdot := fun x hx =>
    List.forall_mem_append.mpr ⟨hsp, List.forall_mem_singleton.mpr hx⟩
  have hkey : ∀ x : Name, x ≠ dotdot → absKey dir ⟨false, sp ++ [x]⟩ = dir ++ sp ++ [x] := by
    intro x hx
    simp only [absKey, Bool.false_eq_true, if_false, lexNorm_plain _ _ (hplain x hx), List.append_assoc]
  have hwalk : ∀ fs, LinkFree fs → (∀ p, isDirAt fs p = isDirAt base p) → ∀ x : Name, x ≠ dotdot →
      walkPath fs dir ⟨false, sp ++ [x]⟩ = .ok (dir ++ sp ++ [x]) := by
    intro fs hl hd x hx
    simp only [walkPath, Bool.false_eq_true, if_false]
    rw [walk_plain hl (sp ++ [x]) dir (hplain x hx), List.append_assoc]
    intro k hk
    have hk' : k ≤ sp.length := by simp at hk; omega
    rw [List.take_append_of_le_length hk', hd]
    exact hanc k hk'
  rw [← hkey n hn] at hna
  rw [← hkey m hm] at hnb
  refine ⟨?_, ?_, ?_, by simp [parentOf], ?_, ?_, hna, hnb, fun fs hl hd => ?_⟩
  · rw [hkey n hn, hkey m hm]
    intro h
    exact hnm (by simpa using List.append_cancel_left h)
  · rw [hkey n hn, hkey m hm]; simp
  · rw [hkey n hn, hkey m hm, List.dropLast_concat, List.dropLast_concat]
  · rw [hkey m hm, List.append_assoc]
    exact List.isPrefixOf_iff_prefix.mpr (List.prefix_append _ _)
  · rw [hkey m hm, List.dropLast_concat]
    simpa using hanc sp.length (Nat.le_refl _)
  · rw [hkey n hn, hkey m hm]
    exact ⟨hwalk fs hl hd n hn, hwalk fs hl hd m hm⟩


/-- two plain names directly below the input directory; the side conditions come as one proposition, which on a concrete
    tree is decided in one go -/
theorem NameCall.top {base : FS} {dir : APath} {n m : Name}
    (h : isDirAt base dir = true ∧ n ≠ m ∧ n ≠ dotdot ∧ m ≠ dotdot ∧ isDirAt base (dir ++ [n]) = false ∧
      isDirAt base (dir ++ [m]) = false) : NameCall base dir ⟨false, [n]⟩ ⟨false, [m]⟩ :=
  ⟨[], n, m, rfl, rfl, h.2.1, h.2.2.1, h.2.2.2.1, fun _ h => absurd h List.not_mem_nil, fun k _ => (by simpa using h.1),
    (by simpa using h.2.2.2.2.1), (by simpa using h.2.2.2.2.2)⟩

namespace Resolved
variable {base : FS} {dir : APath} {src dst : PurePath} (hR : Resolved base dir src dst)
include hR

theorem dst_ne : dst ≠ src := fun e => hR.ne (by rw [e])

/-- the source key is not the root, which is a directory: there a path exists iff an entry is found -/
theorem lexists_src (fs : FS) : lexists fs (absKey dir src) = (fs.find (absKey dir src)).isSome := by
  simp [lexists, ne_nil_of_not_isDirAt hR.srcLeaf]

theorem contained_eq {fs : FS} (hl : LinkFree fs) : contained fs dir dst = .ok true := by
  rw [linkFree_resolve hl, hR.inside]

theorem lexistsRel_dst {fs : FS} (hl : LinkFree fs) (hd : ∀ p, isDirAt fs p = isDirAt base p) :
    lexistsRel fs dir dst = lexists fs (absKey dir dst) := by
  unfold lexistsRel
  rw [(hR.walk fs hl hd).2]

theorem toLeafMove {fs : FS} (hw : WF fs) (hd : ∀ p, isDirAt fs p = isDirAt base p) {ea : Entry}
    (ha : fs.find (absKey dir src) = some ea) : LeafMove fs (absKey dir src) (absKey dir dst) ea := by
  exact ⟨hw, ha, kind_of_not_isDirAt ((hd _).trans hR.srcLeaf) ha, hR.ne, fun hp => hR.ne (hp.eq_of_length hR.len),
    by rw [hd]; exact hR.parentDir, by rw [hd]; exact hR.dstLeaf⟩

/-- **`FileRenamer` on a name-mode call**: refuse an existing destination unless overriding; fail on a missing
    source; otherwise one `rename(2)` of a leaf -/
theorem fileRenamer_eq {s : RealState} (hw : WF s.fs) (hl : LinkFree s.fs) (hd : ∀ p, isDirAt s.fs p = isDirAt base p)
    (hf : s.faultAt = none) (ov : Bool) :
    fileRenamer s dir src dst ov =
      if (!ov && lexists s.fs (absKey dir dst)) = true then (s, some .destExists)
      else match s.fs.find (absKey dir src) with
        | none => (s, some (.os .ENOENT))
        | some _ =>
          ({ s with fs := moved s.fs (absKey dir src) (absKey dir dst),
                    log := s.log ++ [.rename (absKey dir src) (absKey dir dst)],
                    hist := s.hist ++ [moved s.fs (absKey dir src) (absKey dir dst)] }, none) := by
  obtain ⟨hws, hwd⟩ := hR.walk s.fs hl hd
  unfold fileRenamer
  rw [hR.lexistsRel_dst hl hd]
  split
  · rfl
  · rw [if_neg (by simp [hR.parent])]
    unfold renameRel RealState.prim
    rw [hws, hwd]
    simp only [hf, reduceCtorEq, if_false]
    cases ha : s.fs.find (absKey dir src) with
    | none => simp [renameAbs_of_find_none ha, errOfErrno]
    | some ea => simp only [(hR.toLeafMove hw hd ha).renameAbs_eq]

end Resolved

theorem Resolved.dryRunRenamer_eq {base : FS} {dir : APath} {src dst : PurePath} (hR : Resolved base dir src dst)
    (s : DryState) (ov : Bool) :
    dryRunRenamerWith true s dir src dst ov =
      if (vexists s (absKey dir dst) && !ov) = true then (s, some .destExists)
      else if vexists s (absKey dir src) = false then (s, some .notFound)
      else ({ s with removed := (s.removed ++ [absKey dir src]).filter (· ≠ absKey dir dst),
                     created := (s.created ++ [absKey dir dst]).filter (· ≠ absKey dir src) }, none) := by
  unfold dryRunRenamerWith vexists
  simp only [hR.parent, ne_eq, not_true_eq_false, decide_false, Bool.and_false, Bool.false_eq_true, if_false,
    Bool.not_eq_eq_eq_not, Bool.not_true]

end C05
end Tempren

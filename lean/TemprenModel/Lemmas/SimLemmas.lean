import TemprenModel.Lemmas.FSLemmas
/-!
File-system facts behind the name-mode simulation of C05: walking and normalising plain paths on a
link-free tree, and the exact effect of renaming a leaf onto a free path or onto another leaf (`LeafMove`).
-/
namespace Tempren

/-- no symbolic link anywhere -/
def LinkFree (fs : FS) : Prop := ∀ e ∈ fs, ∀ t, e.kind ≠ .link t

theorem isLinkAt_false {fs : FS} (h : LinkFree fs) (p : APath) : isLinkAt fs p = false := by
  unfold isLinkAt
  cases hf : fs.find p with
  | none => rfl
  | some e =>
    cases hk : e.kind with
    | link t => exact absurd hk (h e (find_some_mem hf).1 t)
    | _ => simp [hk]

theorem lexNorm_plain : ∀ (parts : List Name) (cur : APath), (∀ c ∈ parts, c ≠ dotdot) → lexNorm cur parts = cur ++ parts := by
  intro parts
  induction parts with
  | nil => intro cur _; simp [lexNorm]
  | cons c rest ih =>
    intro cur h
    rw [lexNorm, if_neg (h c List.mem_cons_self), ih _ (fun x hx => h x (List.mem_cons_of_mem _ hx)),
      List.append_assoc, List.singleton_append]

theorem walk_plain {fs : FS} (hl : LinkFree fs) (parts : List Name) (cur : APath)
    (hdd : ∀ c ∈ parts, c ≠ dotdot) (hdirs : ∀ k, k < parts.length → isDirAt fs (cur ++ parts.take k) = true) :
    walk fs cur parts = .ok (cur ++ parts) :=
  walk_dirs parts cur hdd fun k hk => ⟨hdirs k hk, isLinkAt_false hl _⟩

theorem linkFree_moved {fs : FS} (h : LinkFree fs) (a b : APath) : LinkFree (moved fs a b) := fun e' he' t => by
  obtain ⟨e, he, _, rfl⟩ := mem_moved.mp he'
  rw [rekey_kind]; exact h e he t

/-- the leaf at `a` is to be renamed onto another path `b` outside it, in an existing directory, that is free or
    another leaf -/
structure LeafMove (fs : FS) (a b : APath) (ea : Entry) : Prop where
  wf : WF fs
  src : fs.find a = some ea
  leaf : ea.kind ≠ .dir
  ne : a ≠ b
  outside : ¬ a <+: b
  parentDir : isDirAt fs b.dropLast = true
  dstLeaf : isDirAt fs b = false

namespace LeafMove
variable {fs : FS} {a b : APath} {ea : Entry} (h : LeafMove fs a b ea)
include h

theorem renameAbs_eq : renameAbs fs a b = .ok (moved fs a b) :=
  renameAbs_nondir_ok h.src h.leaf h.outside h.parentDir h.dstLeaf

theorem wf' : WF (moved fs a b) := renameAbs_WF h.wf h.renameAbs_eq

theorem src_ne_nil : a ≠ [] := fun h0 => by
  have := h.src
  rw [h0, find_nil_none h.wf.2] at this
  cases this

theorem mem {e' : Entry} :
    e' ∈ moved fs a b ↔ e' = { ea with path := b } ∨ (e' ∈ fs ∧ e'.path ≠ a ∧ e'.path ≠ b) := by
  have hamem := find_some_mem h.src
  have hea : rekey a b ea = { ea with path := b } := by rw [rekey_eq, hamem.2, repath_self]
  rw [mem_moved]
  constructor
  · rintro ⟨e, he, hne, rfl⟩
    by_cases hp : a <+: e.path
    · rw [leaf_no_children h.wf h.src h.leaf he hp]; exact .inl hea
    · rw [rekey_of_not_prefix hp]; exact .inr ⟨he, fun e0 => hp (e0 ▸ List.prefix_rfl), hne⟩
  · rintro (rfl | ⟨he, hna, hnb⟩)
    · exact ⟨ea, hamem.1, hamem.2 ▸ h.ne, hea⟩
    · exact ⟨e', he, hnb, rekey_of_not_prefix fun hp => hna (leaf_no_children h.wf h.src h.leaf he hp ▸ hamem.2)⟩

/-- the directories are the same: neither the leaf `a` nor the non-directory path `b` is one -/
theorem isDirAt_eq (p : APath) : isDirAt (moved fs a b) p = isDirAt fs p := by
  rw [Bool.eq_iff_iff, isDirAt_iff h.wf'.1, isDirAt_iff h.wf.1]
  refine or_congr_right ⟨fun ⟨d, hd, hdp, hdk⟩ => ?_, fun ⟨d, hd, hdp, hdk⟩ =>
    ⟨d, h.mem.mpr (.inr ⟨hd, fun e0 => ?_, fun e0 => ?_⟩), hdp, hdk⟩⟩
  · rcases h.mem.mp hd with rfl | ⟨hd, _, _⟩
    · exact absurd hdk h.leaf
    · exact ⟨d, hd, hdp, hdk⟩
  · have := (find_eq_some_iff h.wf.1).mpr ⟨hd, e0⟩
    rw [h.src] at this
    exact h.leaf (Option.some.inj this ▸ hdk)
  · exact kind_of_not_isDirAt h.dstLeaf ((find_eq_some_iff h.wf.1).mpr ⟨hd, e0⟩) hdk

end LeafMove

/-- **renaming a leaf** `a` onto `b` (same directory level; `b` free or another leaf): succeeds, keeps the
    tree well-formed, and the new tree is the old one with `b`'s old entry gone and `a`'s entry at `b` -/
theorem renameAbs_leaf {fs : FS} (hw : WF fs) {a b : APath} {ea : Entry}
    (ha : fs.find a = some ea) (hka : ea.kind ≠ .dir) (hab : a ≠ b) (hlen : a.length = b.length)
    (hpar : isDirAt fs b.dropLast = true) (hbd : isDirAt fs b = false) :
    ∃ fs', renameAbs fs a b = .ok fs' ∧ WF fs' ∧
      (∀ e', e' ∈ fs' ↔ (e' = { ea with path := b } ∨ (e' ∈ fs ∧ e'.path ≠ a ∧ e'.path ≠ b))) :=
  have h : LeafMove fs a b ea := ⟨hw, ha, hka, hab, fun hp => hab (hp.eq_of_length hlen), hpar, hbd⟩
  ⟨_, h.renameAbs_eq, h.wf', fun _ => h.mem⟩

end Tempren

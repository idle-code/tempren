import TemprenModel.Extracted
import TemprenModel.Lemmas.CountLemmas
import TemprenModel.Lemmas.EscLemmas
import TemprenModel.Lemmas.FSLemmas
import TemprenModel.Lemmas.HashLemmas
import TemprenModel.Lemmas.IntLemmas
import TemprenModel.Lemmas.ListLemmas
import TemprenModel.Lemmas.NameMode
import TemprenModel.Lemmas.OrderLemmas
import TemprenModel.Lemmas.PathLemmas
import TemprenModel.Lemmas.PipelineLemmas
import TemprenModel.Lemmas.RegistryLemmas
import TemprenModel.Lemmas.ReprLemmas
import TemprenModel.Lemmas.SimLemmas
import TemprenModel.Lemmas.TextLemmas
import TemprenModel.Model.AdHoc
import TemprenModel.Model.Bind
import TemprenModel.Model.Count
import TemprenModel.Model.FS
import TemprenModel.Model.Gather
import TemprenModel.Model.Hash
import TemprenModel.Model.Main
import TemprenModel.Model.Order
import TemprenModel.Model.Path
import TemprenModel.Model.Pipeline
import TemprenModel.Model.Printer
import TemprenModel.Model.Prompt
import TemprenModel.Model.Proto
import TemprenModel.Model.PyInt
import TemprenModel.Model.PyRepr
import TemprenModel.Model.PyStr
import TemprenModel.Model.Registry
import TemprenModel.Model.Renamer
import TemprenModel.Model.Render
import TemprenModel.Model.Report
import TemprenModel.Model.Template
import TemprenModel.Model.Text
import TemprenModel.Props.C01
import TemprenModel.Props.C02
import TemprenModel.Props.C02Chain
import TemprenModel.Props.C02Paths
import TemprenModel.Props.C03
import TemprenModel.Props.C03Ignore
import TemprenModel.Props.C03IgnorePaths
import TemprenModel.Props.C03Spec
import TemprenModel.Props.C04
import TemprenModel.Props.C05
import TemprenModel.Props.C05Closed
import TemprenModel.Props.C05Custom
import TemprenModel.Props.C05Report
import TemprenModel.Props.C06
import TemprenModel.Props.C06Checked
import TemprenModel.Props.C06Dotdot
import TemprenModel.Props.C07
import TemprenModel.Props.C07Order
import TemprenModel.Props.C08
import TemprenModel.Props.C08Count
import TemprenModel.Props.C08Dir
import TemprenModel.Props.C08Unique
import TemprenModel.Props.C09
import TemprenModel.Props.C09Grammar
import TemprenModel.Props.C10
import TemprenModel.Props.C10Cover
import TemprenModel.Props.C10Grammar
import TemprenModel.Props.C10Lex
import TemprenModel.Props.C10Tokens
import TemprenModel.Props.C10Tree
import TemprenModel.Props.C11
import TemprenModel.Props.C11Grammar
import TemprenModel.Props.C11Tree
import TemprenModel.Props.C12
import TemprenModel.Props.C13
import TemprenModel.Props.C14
import TemprenModel.Props.C15
import TemprenModel.Props.C16
import TemprenModel.Props.C17
import TemprenModel.Props.C18
import TemprenModel.Props.C19
import TemprenModel.Props.C20
